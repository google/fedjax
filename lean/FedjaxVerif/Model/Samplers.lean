/-
Model of `fedjax/core/client_samplers.py` (C13).

  * `get_pseudo_random_state(seed, round)`:
      `RandomState(pow(16807, round, 2**31-1) * mlcg_start % (2**31-1))`
    ↦ `lehmer start round` (`start = RandomState(seed).randint(1, 2**31-2)` is an input).
    Python's three-argument `pow` ↦ `powMod` (square-and-multiply, fuel = the `e.log2 + 1` bits
    of the exponent; the theorems go through `lehmer_eq`, valid for every round).
  * `UniformGetClientSampler` ↦ state = round number; ops `sample`, `setRound r`, `failedSample`
    (a `sample()` whose dataset loading raised: `_round_num += 1` is the last statement, so the
    state is unchanged).
    numpy's `choice`, jax's `split(PRNGKey(round), n)` and `get_clients` are oracles.
  * `UniformShuffledClientSampler` ↦ state = (position in the client stream, round number); the
    constructor's nested seek loop is `seek`.
Core Lean only (no Mathlib): this file is linked into the driver executable.
-/

namespace FedjaxVerif.Samplers

/-- `mlcg_modulus = 2**31 - 1` -/
def P : Nat := 2147483647
/-- `mlcg_multiplier` -/
def G : Nat := 16807

/-- `pow(b, e, m)` by square-and-multiply on the bits of `e`; `fuel` bounds the number of bits. -/
def powModF : Nat → Nat → Nat → Nat → Nat
  | 0, _, _, m => 1 % m
  | fuel+1, b, e, m =>
    if e = 0 then 1 % m
    else
      let h := powModF fuel (b * b % m) (e / 2) m
      if e % 2 = 1 then b * h % m else h

/-- `pow(b, e, m)`; `e.log2 + 1` bits are enough (`powMod_eq` in Props/C13). -/
def powMod (b e m : Nat) : Nat := powModF (e.log2 + 1) b e m

/-- the numpy seed of round `r`: `pow(16807, r, P) * start % P`. -/
def lehmer (start r : Nat) : Nat := powMod G r P * start % P

/-! ### round-indexed sampler (`UniformGetClientSampler`) -/

/-- externals of the sampler:
`choice s n`  = `RandomState(s).choice(np.array(ids, dtype=object), size=n, replace=False)`,
`keys r n`    = `jax.random.split(jax.random.PRNGKey(r), n)`,
`data id`     = the dataset `get_clients` yields for `id`. -/
structure Oracles (Id D K : Type) where
  choice : Nat → Nat → List Id
  keys : Nat → Nat → List K
  data : Id → D

/-- the return value of `sample()` at round `r`:
`[(id, dataset, rngs[i]) for i, (id, dataset) in enumerate(get_clients(choice))]`. -/
def cohort {Id D K} (o : Oracles Id D K) (start n r : Nat) : List (Id × D × K) :=
  ((o.choice (lehmer start r) n).zip (o.keys r n)).map fun p => (p.1, o.data p.1, p.2)

inductive Op where
  | sample
  | setRound (r : Nat)
  /-- a `sample()` call that raised while the datasets were being loaded (`get_clients` is an
  external that may fail): it hands out nothing, so it must not consume the round. -/
  | failedSample
deriving Repr

/-- one method call on a sampler whose `_round_num` is `round`:
new round number and the value returned (`none` for `set_round_num`). -/
def step {Id D K} (o : Oracles Id D K) (start n : Nat) (round : Nat) :
    Op → Nat × Option (List (Id × D × K))
  | .sample => (round + 1, some (cohort o start n round))
  | .setRound r => (r, none)
  | .failedSample => (round, none)

/-- a history of calls starting at `_round_num = round`: final round number and all returned values. -/
def run {Id D K} (o : Oracles Id D K) (start n : Nat) :
    Nat → List Op → Nat × List (Option (List (Id × D × K)))
  | round, [] => (round, [])
  | round, op :: ops =>
    let s := step o start n round op
    let r := run o start n s.1 ops
    (r.1, s.2 :: r.2)

/-! ### streaming sampler (`UniformShuffledClientSampler`) -/

/-- state of the streaming sampler: how many items of the client stream were consumed, and
`_round_num`. -/
structure SState where
  pos : Nat
  round : Nat
deriving Repr

/-- inner loop of the constructor: `for _ in range(n): next(it)`. -/
def seekInner : Nat → Nat → Nat
  | 0, pos => pos
  | k+1, pos => seekInner k (pos + 1)

/-- outer loop of the constructor: `for _ in range(start_round_num): <inner>`. -/
def seek (n : Nat) : Nat → Nat → Nat
  | 0, pos => pos
  | k+1, pos => seek n k (seekInner n pos)

/-- `UniformShuffledClientSampler(it, n, start_round_num)` on a fresh iterator. -/
def SState.init (n startRound : Nat) : SState := ⟨seek n startRound 0, startRound⟩

/-- the `for i in range(n): next(it)` loop of `sample`: stream positions consumed, in order. -/
def takePos : Nat → Nat → List Nat
  | 0, _ => []
  | k+1, pos => pos :: takePos k (pos + 1)

/-- `sample()` over the client stream `s`: returned cohort and new state. -/
def SState.sample {C K} (s : Nat → C) (keys : Nat → Nat → List K) (n : Nat) (st : SState) :
    List (C × K) × SState :=
  (((takePos n st.pos).map s).zip (keys st.round n), ⟨st.pos + n, st.round + 1⟩)

/-- `k` successive `sample()` calls; all returned cohorts and the final state. -/
def SState.samples {C K} (s : Nat → C) (keys : Nat → Nat → List K) (n : Nat) :
    Nat → SState → List (List (C × K)) × SState
  | 0, st => ([], st)
  | k+1, st =>
    let r := st.sample s keys n
    let rest := SState.samples s keys n k r.2
    (r.1 :: rest.1, rest.2)

end FedjaxVerif.Samplers
