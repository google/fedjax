import FedjaxVerif.Model.Batching

/-
Model of the centralised streams over many clients (C15):

  * `padded_batch_client_datasets` (client_datasets.py)  ↦ `stepDataset` (one turn of the
    `for dataset in datasets` loop, same comparisons: `buf_size + size < bs`, `if buf`,
    `while start + bs < size`, `if start < size`), `finish` (the final padded batch),
    `multiBatch`; with the preprocessor / feature-set checks: `checkedLoop`, `multiBatchChecked`.
  * `buffered_shuffle`                                   ↦ `bufferedShuffle` (`swap0`, `bshufLoop`)
  * `buffered_shuffle_batch_client_datasets`             ↦ `chunkLoop`, `shuffleBatch`
  * `FederatedData.shuffled_clients`                     ↦ `shuffledClients`
  * `RepeatableIterator` (federated_data.py)             ↦ `RepIter`, `RepIter.next`, `RepIter.nexts`

Externals: numpy's `rng.shuffle(buf)` enters as `shuf : List α → List α` (the buffer after the
shuffle), `rng.randint(buffer_size)` as the list `swaps` of draws.  `buf` is a Python list of
*pieces*; `if buf:` tests the list, so a buffer holding only empty pieces counts as non-empty —
the model keeps the pieces for that reason.  The source comment "Invariant: buf_size < batch_size"
is false (a client of exactly `batch_size` rows arriving at an empty buffer is buffered whole);
the true invariant `≤` is `C15_buf_invariant`.
Core Lean only (no Mathlib): this file is linked into the driver executable.
-/

namespace FedjaxVerif.Centralised
open FedjaxVerif.Batching

/-! ### padded_batch_client_datasets -/

structure MState (α : Type) where
  buf : List (List α)
  bufSize : Nat
  out : List (List α)

def MState.init {α} : MState α := { buf := [], bufSize := 0, out := [] }

/-- `while start + bs < size: yield examples[start:start+bs]; start += bs` -/
def emitFull {α} (bs : Nat) (xs : List α) : Nat → Nat → List (List α) × Nat
  | 0, start => ([], start)
  | fuel+1, start =>
    if start + bs < xs.length then
      let r := emitFull bs xs fuel (start + bs)
      ((xs.drop start).take bs :: r.1, r.2)
    else ([], start)

/-- one turn of `for dataset in datasets` (after the consistency checks) -/
def stepDataset {α} (bs : Nat) (st : MState α) (xs : List α) : MState α :=
  let size := xs.length
  if st.bufSize + size < bs then
    { st with buf := st.buf ++ [xs], bufSize := st.bufSize + size }
  else
    let start := if st.buf.isEmpty then 0 else bs - st.bufSize
    let out1 := if st.buf.isEmpty then st.out else st.out ++ [(st.buf ++ [xs.take start]).flatten]
    let r := emitFull bs xs (size + 1) start
    if r.2 < size then
      { buf := [xs.drop r.2], bufSize := size - r.2, out := out1 ++ r.1 }
    else { buf := [], bufSize := 0, out := out1 ++ r.1 }

/-- full batches carry `full_mask`; after the loop `if buf:` the rest is padded by the bucket rule.
`none` = `pad_examples` would raise. -/
def finish {α} (bs B : Nat) (z : α) (st : MState α) : Option (List (List α × List Bool)) :=
  let full := st.out.map fun b => (b, List.replicate bs true)
  if st.buf.isEmpty then some full
  else (padTo z (pickFinal st.bufSize bs B) st.buf.flatten).map fun p => full ++ [p]

def multiBatch {α} (bs B : Nat) (z : α) (dsets : List (List α)) : Option (List (List α × List Bool)) :=
  finish bs B z (dsets.foldl (stepDataset bs) MState.init)

/-- a client dataset as the consistency checks see it: identity of the preprocessor object,
feature set (canonical id), rows -/
structure DS (α : Type) where
  pre : Nat
  feats : Nat
  rows : List α

structure CState (α : Type) where
  pre : Option Nat
  feats : Option Nat
  st : MState α

/-- `dataset.preprocessor is not preprocessor` / `features != set(dataset.raw_examples)`;
`none` = nothing remembered yet -/
def mismatch (seen : Option Nat) (x : Nat) : Bool :=
  match seen with
  | none => false
  | some p => x != p

/-- the `for` loop with its two checks; returns the state reached and whether a `ValueError`
ended the stream (the batches of `st.out` were already yielded when it is raised) -/
def checkedLoop {α} (bs : Nat) : CState α → List (DS α) → MState α × Bool
  | c, [] => (c.st, false)
  | c, d :: ds =>
    if mismatch c.pre d.pre then (c.st, true)
    else if mismatch c.feats d.feats then (c.st, true)
    else checkedLoop bs { pre := some (c.pre.getD d.pre), feats := some (c.feats.getD d.feats),
                          st := stepDataset bs c.st d.rows } ds

/-- `padded_batch_client_datasets`: `(batches yielded, ended by ValueError?)`;
`none` = `pad_examples` would raise -/
def multiBatchChecked {α} (bs B : Nat) (z : α) (ds : List (DS α)) :
    Option (List (List α × List Bool) × Bool) :=
  let r := checkedLoop bs { pre := none, feats := none, st := MState.init } ds
  if r.2 then some (r.1.out.map fun b => (b, List.replicate bs true), true)
  else (finish bs B z r.1).map fun v => (v, false)

/-! ### buffered_shuffle -/

/-- `buf[swap], buf[0] = buf[0], buf[swap]` (no-op for `swap = 0`; out of range would be an
`IndexError`, the model leaves the buffer unchanged) -/
def swap0 {α} (buf : List α) (s : Nat) : List α :=
  match buf, s with
  | a :: tl, s+1 =>
    match tl[s]? with
    | some x => x :: tl.set s a
    | none => a :: tl
  | buf, _ => buf

/-- `for i in it: r, buf[0] = buf[0], i; swap = rng.randint(B); if swap < B-1: swap; yield r`
then `for i in buf: yield i`.  A missing draw counts as `0`. -/
def bshufLoop {α} (B : Nat) : List α → List α → List Nat → List α
  | buf, [], _ => buf
  | buf, i :: rest, swaps =>
    match buf with
    | [] => []          -- `buf[0]` raises IndexError (buffer_size = 0)
    | r :: tl =>
      let s := swaps.headD 0
      let buf1 := i :: tl
      let buf2 := if s < B - 1 then swap0 buf1 s else buf1
      r :: bshufLoop B buf2 rest swaps.tail

/-- `buffered_shuffle(source, B, rng)`: `shuf` = what `rng.shuffle` makes of the first `B` items -/
def bufferedShuffle {α} (B : Nat) (shuf : List α → List α) (swaps : List Nat) (src : List α) : List α :=
  bshufLoop B (shuf (src.take B)) (src.drop B) swaps

/-! ### buffered_shuffle_batch_client_datasets -/

/-- `buf.append(item); if len(buf) == bs: yield buf; buf.clear()` … `if buf: yield buf` -/
def chunkLoop {α} (bs : Nat) : List α → List α → List (List α)
  | buf, [] => if buf.isEmpty then [] else [buf]
  | buf, x :: xs =>
    let buf' := buf ++ [x]
    if buf'.length = bs then buf' :: chunkLoop bs [] xs else chunkLoop bs buf' xs

/-- all `(dataset, i)` items in client order and example order, shuffled through the buffer,
batched; the final batch may be smaller (no padding here) -/
def shuffleBatch {α} (bs B : Nat) (shuf : List α → List α) (swaps : List Nat)
    (dsets : List (List α)) : List (List α) :=
  chunkLoop bs [] (bufferedShuffle B shuf swaps dsets.flatten)

/-! ### shuffled_clients -/

/-- `while True:` yield all that `buffered_shuffle(self.clients(), B, rng)` yields: the first
`passes` passes; pass `p` uses the oracle's `p`-th shuffle and draws -/
def shuffledClients {α} (B : Nat) (shuf : Nat → List α → List α) (swaps : Nat → List Nat)
    (clients : List α) (passes : Nat) : List α :=
  (List.range passes).flatMap fun p => bufferedShuffle B (shuf p) (swaps p) clients

/-! ### RepeatableIterator -/

/-- `_first_pass`, the items `_iter` has still to produce, `_buf` -/
structure RepIter (α : Type) where
  firstPass : Bool
  iter : List α
  buf : List α

/-- general iterable: copy during the first pass -/
def RepIter.ofIterable {α} (base : List α) : RepIter α := { firstPass := true, iter := base, buf := [] }
/-- list / tuple / dict / str / bytes: replayed without copying (`_buf` is the container itself) -/
def RepIter.ofContainer {α} (base : List α) : RepIter α := { firstPass := false, iter := base, buf := base }

/-- `__next__`; `none` = `StopIteration` -/
def RepIter.next {α} (s : RepIter α) : Option α × RepIter α :=
  match s.iter with
  | [] => (none, { firstPass := false, iter := s.buf, buf := s.buf })
  | v :: rest => (some v, { s with iter := rest, buf := if s.firstPass then s.buf ++ [v] else s.buf })

/-- `k` successive `next` calls -/
def RepIter.nexts {α} : Nat → RepIter α → List (Option α)
  | 0, _ => []
  | k+1, s => let r := s.next; r.1 :: RepIter.nexts k r.2

end FedjaxVerif.Centralised
