/-
Model of `fedjax/core/for_each_client.py` (C02).

* `seqRun` — the sequential per-client fold; this *is* the model of the jit and debug backends
  (`run_client`: init, loop over batches appending step results, final).
* `pmapRun` — the pmap backend: `_blockify` (stable sort by batch count descending, chunks of
  `D`, padding clients with a template-derived input, padding batches with a template-derived batch
  and `mask = False`), the masked step (`where(mask, next, state)`, `where(mask, r, zeros_like r)`),
  dropping of padding clients and cutting step results to the real batch count.
  The padding input `padI`, padding batch `padB`, zeroing `zeroR` and the step function are
  arbitrary: nothing is assumed about `step` on padding.
* `TState`, `tstep`, `gstep` — the thread-local backend choice with the context manager.
Core Lean only.
-/

namespace FedjaxVerif.ForEach

structure Client (ι β γ : Type) where
  id : ι
  batches : List β
  input : γ

section
variable {ι β γ σ₀ σ ρ ω : Type}

/-- `for batch in client_batches: state, r = step(state, batch); step_results.append(r)` -/
def foldSteps (step : σ → β → σ × ρ) (st : σ) : List β → σ × List ρ
  | [] => (st, [])
  | b :: bs =>
    let p := step st b
    let q := foldSteps step p.1 bs
    (q.1, p.2 :: q.2)

/-- jit / debug backend for one client. -/
def seqRun (init : σ₀ → γ → σ) (step : σ → β → σ × ρ) (final : σ₀ → σ → ω) (shared : σ₀)
    (c : Client ι β γ) : ι × ω × List ρ :=
  let q := foldSteps step (init shared c.input) c.batches
  (c.id, final shared q.1, q.2)

/-- `clients.sort(key=lambda x: len(x[1]), reverse=True)` (stable). -/
def sortDesc (cs : List (Client ι β γ)) : List (Client ι β γ) :=
  cs.mergeSort (fun a b => decide (b.batches.length ≤ a.batches.length))

/-- `clients[i:i+D] for i in range(0, len, D)` with fuel. -/
def chunk {α} (D : Nat) : Nat → List α → List (List α)
  | 0, _ => []
  | fuel+1, xs => if xs.isEmpty then [] else xs.take D :: chunk D fuel (xs.drop D)

/-- masked batches of one client inside a block with `M` batch slots. -/
def maskedBatches (padBatch : β) (M : Nat) (bs : List β) : List (β × Bool) :=
  (List.range M).map fun j => match bs[j]? with
    | some b => (b, true)
    | none => (padBatch, false)

/-- `p_client_step` per device: the step is always executed; `where(mask, ·, ·)` selects. -/
def foldMasked (step : σ → β → σ × ρ) (zeroR : ρ → ρ) (st : σ) : List (β × Bool) → σ × List ρ
  | [] => (st, [])
  | (b, m) :: bs =>
    let p := step st b
    let st' := if m then p.1 else st
    let r := if m then p.2 else zeroR p.2
    let q := foldMasked step zeroR st' bs
    (q.1, r :: q.2)

/-- One block: the real clients (mask true) in order; padding clients are computed and dropped. -/
def runBlock (init : σ₀ → γ → σ) (step : σ → β → σ × ρ) (final : σ₀ → σ → ω)
    (padI : γ → γ) (padB : β → β) (zeroR : ρ → ρ) (D : Nat) (shared : σ₀)
    (block : List (Client ι β γ)) : List (ι × ω × List ρ) :=
  match block with
  | [] => []
  | c0 :: _ =>
    let M := c0.batches.length
    let padBatch : Option β := c0.batches.head?.map padB
    -- padding clients (client_id None, input `padI c0.input`, all batches masked) are computed by
    -- the real code and never yielded; being unobservable they do not appear in the model's output.
    block.map fun c =>
      let q := match padBatch with
        | some pb => foldMasked step zeroR (init shared c.input) (maskedBatches pb M c.batches)
        | none => (init shared c.input, [])
      (c.id, final shared q.1, q.2.take c.batches.length)

def pmapRun (init : σ₀ → γ → σ) (step : σ → β → σ × ρ) (final : σ₀ → σ → ω)
    (padI : γ → γ) (padB : β → β) (zeroR : ρ → ρ) (D : Nat) (shared : σ₀)
    (cs : List (Client ι β γ)) : List (ι × ω × List ρ) :=
  let sorted := sortDesc cs
  (chunk D sorted.length sorted).flatMap (runBlock init step final padI padB zeroR D shared)

end

/-! ### thread-local backend choice -/

/-- what `set_for_each_client_backend` accepts: `none`, a supported backend, or an unsupported name -/
inductive Arg (B : Type) where
  | none
  | ok (b : B)
  | bad
deriving DecidableEq, Repr

/-- per-thread state: the raw attribute `_BACKEND_CHOICE.backend` and the stack of `old` values of
the context managers currently entered by this thread. -/
structure TState (B : Type) where
  cur : Option B
  stack : List (Option B)

inductive Op (B : Type) where
  | get                    -- get_for_each_client_backend()
  | set (a : Arg B)        -- set_for_each_client_backend(a)
  | enter (a : Arg B)      -- `with for_each_client_backend(a):` entered
  | exit                   -- the block is left (normally or by an exception)

/-- result of an op: `some b` for `get`, error flag for `ValueError`. -/
structure OpOut (B : Type) where
  got : Option B := .none
  valueError : Bool := false

def setArg {B} (s : TState B) : Arg B → Option (TState B)
  | .none => some { s with cur := none }
  | .ok b => some { s with cur := some b }
  | .bad => none

/-- One op of one thread. `dflt` is `DEFAULT_BACKEND`. An `enter` with an unsupported name raises
inside the `try`, so the `finally` restores `old` and the block is never entered (nothing pushed). -/
def tstep {B} (dflt : B) (s : TState B) : Op B → TState B × OpOut B
  | .get => match s.cur with
    | some b => (s, { got := some b })
    | none => ({ s with cur := some dflt }, { got := some dflt })
  | .set a => match setArg s a with
    | some s' => (s', {})
    | none => (s, { valueError := true })
  | .enter a => match setArg s a with
    | some s' => ({ s' with stack := s.cur :: s.stack }, {})
    | none => ({ s with cur := s.cur }, { valueError := true })
  | .exit => match s.stack with
    | old :: rest => ({ cur := old, stack := rest }, {})
    | [] => (s, {})

def trun {B} (dflt : B) (s : TState B) (ops : List (Op B)) : TState B :=
  ops.foldl (fun s o => (tstep dflt s o).1) s

/-- all threads: thread id ↦ state; an op of thread `t` touches only component `t`. -/
def gstep {B} (dflt : B) (g : Nat → TState B) (t : Nat) (o : Op B) : Nat → TState B :=
  fun u => if u = t then (tstep dflt (g t) o).1 else g u

def grun {B} (dflt : B) (g : Nat → TState B) (sched : List (Nat × Op B)) : Nat → TState B :=
  sched.foldl (fun g p => gstep dflt g p.1 p.2) g

end FedjaxVerif.ForEach
