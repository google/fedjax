/-
Models for C17 that are not part of the FedAvg-reduction family:
  * `agnostic_fed_avg.py` — domain weights (exponentiated gradient + renormalisation), sliding
    window of per-domain counts, scaling weights α / β, the round;
  * `optimizers.ignore_grads_haiku`.

Agnostic FedAvg is modelled **as repaired**: `α = safe_div(weights, mean(window))` and the scaled
loss divides by β with `safe_div` (before that repair the code divided unguarded: a domain without
examples in the whole window gave α = inf, β = NaN/inf and NaN parameters one round later).

Externals: `e : Rat → Rat` is `exp` (only positivity is used), `dloss` the per-domain loss sums the
evaluation pass computes for a client, `gradAB α β` the gradient of the scaled loss, optimizers.
Core Lean only.
-/
import FedjaxVerif.Model.FedAvg

namespace FedjaxVerif.Invariants
open FedjaxVerif.FedAvg

/-- `util.safe_div` -/
def safeDiv (a b : Rat) : Rat := if b = 0 then 0 else a / b

/-- `jnp.mean(jnp.asarray(window), axis=0)` for `D` domains (the window is never empty: its length
is the constant `domain_window_size ≥ 1`, theorem `C17_window`) -/
def colMean (window : List (List Rat)) (D : Nat) : List Rat :=
  (List.range D).map fun i => (window.map fun r => r.getD i 0).sum / (window.length : Rat)

/-- α: domain weights divided by the average per-domain count over the window (guarded) -/
def alpha (weights : List Rat) (window : List (List Rat)) : List Rat :=
  List.zipWith safeDiv weights (colMean window weights.length)

/-- β of a client: `sum(alpha * domain_num)` -/
def beta (al : List Rat) (dnum : List Rat) : Rat := (List.zipWith (· * ·) al dnum).sum

/-- `update_domain_weights(..., 'eg')`: `w·exp(η·L)`, clamped at 0, renormalised; `none` = the sum
is 0 and the float quotient is NaN -/
def updateWeights (w es : List Rat) : Option (List Rat) :=
  let u := (List.zipWith (· * ·) w es).map fun x => if x < 0 then 0 else x
  let t := u.sum
  if t = 0 then none else some (u.map (· / t))

/-- `domain_window[1:] + [sum_domain_num]` -/
def shiftWindow (window : List (List Rat)) (counts : List Rat) : List (List Rat) :=
  window.drop 1 ++ [counts]

def vsum (D : Nat) (vs : List (List Rat)) : List Rat :=
  (List.range D).map fun i => (vs.map fun v => v.getD i 0).sum

/-- a client of agnostic FedAvg: FedAvg client + what the domain-metrics pass needs -/
structure AClient (ι β γ : Type) extends Client ι β where
  evalData : γ
  dnum : List Rat        -- number of examples per domain

structure AgState (σs : Type) where
  params : P
  opt : σs
  weights : List Rat
  window : List (List Rat)

section
variable {β γ σc σs ι : Type}

/-- weighted running sums with real-valued weights (β instead of example counts) -/
def accumulateW (weight : ι → Rat) (zero : P) (results : List (ι × P)) : P × Rat :=
  results.foldl (fun acc r => (vadd acc.1 (vscale (weight r.1) r.2), acc.2 + weight r.1)) (zero, 0)

/-- `agnostic_federated_averaging(...).apply` with `domain_algorithm='eg'`; `none` = raises (empty
cohort) or non-finite weights -/
def agRound [DecidableEq ι] (e : Rat → Rat) (eta : Rat) (dloss : P → γ → Key → List Rat)
    (gradAB : List Rat → Rat → P → β → Key → P) (copt : Optimizer σc) (sopt : Optimizer σs)
    (s : AgState σs) (clients : List (AClient ι β γ)) : Option (AgState σs) :=
  let D := s.weights.length
  let al := alpha s.weights s.window
  -- first pass: L^k, N^k, β^k (a dict keyed by client id)
  let betaOf : ι → Rat := fun cid =>
    match clients.reverse.find? (fun c => c.id = cid) with
    | some c => beta al c.dnum
    | none => 0
  let results := clients.map fun c =>
    (c.id, clientDelta (gradAB al (betaOf c.id)) copt s.params c.batches c.key)
  let acc := accumulateW betaOf (vzero s.params) results
  let mean := inverseWeight acc.1 acc.2
  match clients with
  | [] => none
  | _ =>
    let sumLoss := vsum D (clients.map fun c => dloss s.params c.evalData c.key)
    let sumNum := vsum D (clients.map fun c => c.dnum)
    let meanLoss := List.zipWith safeDiv sumLoss sumNum
    let (opt, params) := sopt.apply mean s.opt s.params
    match updateWeights s.weights (meanLoss.map fun l => e (eta * l)) with
    | none => none
    | some w' => some { params := params, opt := opt, weights := w', window := shiftWindow s.window sumNum }

def agRounds [DecidableEq ι] (e : Rat → Rat) (eta : Rat) (dloss : P → γ → Key → List Rat)
    (gradAB : List Rat → Rat → P → β → Key → P) (copt : Optimizer σc) (sopt : Optimizer σs)
    (s : AgState σs) (cohorts : List (List (AClient ι β γ))) : Option (AgState σs) :=
  cohorts.foldlM (agRound e eta dloss gradAB copt sopt) s

end

/-! ## `optimizers.ignore_grads_haiku` -/

/-- haiku params: `(module, name) ↦ value` -/
abbrev Tree (ν : Type) := List (ν × P)

/-- an optimizer over such trees -/
structure TOptimizer (ν σ : Type) where
  init : Tree ν → σ
  apply : Tree ν → σ → Tree ν → σ × Tree ν

section
variable {ν σ : Type} [DecidableEq ν]

/-- `hk.data_structures.map(non_trainable_to_none, tree)`: the named entries become `None`, i.e.
are no leaves any more -/
def maskTree (names : List ν) (t : Tree ν) : Tree ν := t.filter fun e => !(names.contains e.1)

def ignoreInit (base : TOptimizer ν σ) (names : List ν) (params : Tree ν) : σ :=
  base.init (maskTree names params)

/-- `apply`: base optimizer on the masked trees, then the non-trainable entries are set back to
their original values; `none` = KeyError (a listed name that is not a parameter) -/
def ignoreApply (base : TOptimizer ν σ) (names : List ν) (grads : Tree ν) (st : σ) (params : Tree ν) :
    Option (σ × Tree ν) :=
  if names.all (fun n => (params.lookup n).isSome) then
    let r := base.apply (maskTree names grads) st (maskTree names params)
    some (r.1, (params.filter fun e => names.contains e.1) ++ (r.2.filter fun e => !(names.contains e.1)))
  else none

end

end FedjaxVerif.Invariants
