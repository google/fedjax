/-
Model of `fedjax/aggregators/compression.py` (C11): uniform / binary stochastic quantizers,
TernGrad, DRIVE, the four compression aggregators, their key handling and bit accounting.

Conventions (DESIGN §3.1/§3.2):
  * numbers are exact rationals (`Rat`); every finite float is one;
  * `jnp.nan_to_num(a / b)` ↦ `guardDiv a b` (`0` when `b = 0`); the theorems show the guard is
    only reached as `0 / 0`.  `num_levels - 1` is divided by unguarded, as in the source
    (theorems assume `2 ≤ L`; the handler rejects `L < 2`);
  * a PRNG key is a *path* in the splitting tree: the step `(n, i)` is
    `jax.random.split(key, n)[i]`; uniform draws / Rademacher signs are supplied by the caller
    through `draw : Path → List Rat`, keyed by the path the model names;
  * `jnp.std` (a square root) enters TernGrad as the parameter `σ`;
  * the structured rotation is `H·D·pad(x) / √d`.  Both quantizers applied to rotated leaves
    (uniform, DRIVE) are positively homogeneous (`C11_scale`), so the two factors `1/√d` are
    applied together as `1/d` after the inverse rotation and the model stays rational.

Two places model the *repaired* behaviour demanded by the property (see `Props/C11.lean`):
  * `binaryCoord` uses `u ≥ s → v_min` (source before repair: `rand > v`, which maps a coordinate
    equal to the minimum to the maximum when its draw is exactly `0`);
  * `drive` divides guarded (source before repair: `0/0 = NaN` on an all-zero leaf).
Core Lean only (linked into the driver).
-/

namespace FedjaxVerif.Quantize

abbrev Path := List (Nat × Nat)
abbrev Tree := List (List Rat)

/-! ### scalar helpers -/

/-- `jnp.nan_to_num(a / b)`, for the `0/0` case. -/
def guardDiv (a b : Rat) : Rat := if b = 0 then 0 else a / b

def rmin (a b : Rat) : Rat := if a ≤ b then a else b
def rmax (a b : Rat) : Rat := if a ≤ b then b else a

/-- `jnp.maximum(0., jnp.minimum(v, 1.))` -/
def clamp01 (x : Rat) : Rat := rmax 0 (rmin x 1)

def rabs (x : Rat) : Rat := if 0 ≤ x then x else -x

/-- `jnp.sign` -/
def sgn (x : Rat) : Rat := if 0 < x then 1 else if x < 0 then -1 else 0

/-- `jnp.amin` of a non-empty array (`0` for the empty list, which the real code rejects). -/
def minL : List Rat → Rat
  | [] => 0
  | [x] => x
  | x :: y :: r => rmin x (minL (y :: r))

/-- `jnp.amax` of a non-empty array. -/
def maxL : List Rat → Rat
  | [] => 0
  | [x] => x
  | x :: y :: r => rmax x (maxL (y :: r))

/-! ### quantizers -/

/-- one coordinate of `uniform_stochastic_quantize`, from the `nan_to_num` rescaling to the final
`v_min + quantized * (v_max - v_min)`. -/
def uniformCoord (L : Nat) (mn mx u x : Rat) : Rat :=
  let k : Rat := (L : Rat) - 1
  let s := clamp01 (guardDiv (x - mn) (mx - mn))
  let c : Rat := ((s * k).ceil : Int) / k
  let f : Rat := ((s * k).floor : Int) / k
  let thr := guardDiv (s - f) (c - f)
  let q := if u > thr then f else c
  mn + q * (mx - mn)

/-- `uniform_stochastic_quantize(v, L, rng)` with `us = jax.random.uniform(rng, v.shape)`. -/
def uniformQ (L : Nat) (us v : List Rat) : List Rat :=
  List.zipWith (uniformCoord L (minL v) (maxL v)) us v

/-- one coordinate of `binary_stochastic_quantize` with explicit thresholds (repaired `>=`). -/
def binaryCoord (mn mx u x : Rat) : Rat :=
  let s := clamp01 (guardDiv (x - mn) (mx - mn))
  if u ≥ s then mn else mx

def binaryQ (us v : List Rat) : List Rat :=
  List.zipWith (binaryCoord (minL v) (maxL v)) us v

/-- `jnp.where(|v| > 2.5σ, 2.5σ·sign v, v)` -/
def clipCoord (σ x : Rat) : Rat := if rabs x > 5 / 2 * σ then 5 / 2 * σ * sgn x else x

/-- `terngrad_quantize(v, rng)`; `σ = jnp.std(v)` is a parameter. -/
def ternQ (σ : Rat) (us v : List Rat) : List Rat :=
  let c := v.map (clipCoord σ)
  let m := maxL (c.map rabs)
  List.zipWith (fun u y => binaryCoord 0 m u (rabs y) * sgn y) us c

/-- one leaf of `drive_pytree` (repaired: guarded division). -/
def drive (v : List Rat) : List Rat :=
  let n2 := (v.map fun x => x * x).sum
  let n1 := (v.map rabs).sum
  v.map fun x => guardDiv (n2 * sgn x) n1

/-! ### admissible outputs (what the property fixes per coordinate, independent of the draw) -/

/-- the two admissible values of a uniformly quantised coordinate: the grid levels just below and
just above `x` on the `(L-1)`-grid between `mn` and `mx` (both `mn` for a constant vector). -/
def admCoord (L : Nat) (mn mx x : Rat) : Rat × Rat :=
  if mx = mn then (mn, mn)
  else
    let k : Rat := (L : Rat) - 1
    let t := (x - mn) * k / (mx - mn)
    (mn + (mx - mn) * (t.floor : Int) / k, mn + (mx - mn) * (t.ceil : Int) / k)

def admUniform (L : Nat) (v : List Rat) : List (Rat × Rat) := v.map (admCoord L (minL v) (maxL v))

/-- binary quantizer: the minimum or the maximum -/
def admBinary (v : List Rat) : List (Rat × Rat) := v.map fun _ => (minL v, maxL v)

/-- TernGrad: `0` or `s·sign c` (`c` the clipped coordinate, `s` the largest clipped magnitude) -/
def admTern (σ : Rat) (v : List Rat) : List (Rat × Rat) :=
  let c := v.map (clipCoord σ)
  let m := maxL (c.map rabs)
  c.map fun y => (0, m * sgn y)

/-! ### Walsh–Hadamard rotation (unnormalised; C18 owns the transform itself) -/

def bitSign (a b : Nat) : Int := if a % 2 = 1 ∧ b % 2 = 1 then -1 else 1

/-- Sylvester–Hadamard entry on `k` bits: `(-1)^popcount(i &&& j)`. -/
def hEntry : Nat → Nat → Nat → Int
  | 0, _, _ => 1
  | k + 1, i, j => bitSign i j * hEntry k (i / 2) (j / 2)

def hadamard (k : Nat) (x : List Rat) : List Rat :=
  (List.range (2 ^ k)).map fun i =>
    ((List.range (2 ^ k)).zipWith (fun j xj => (hEntry k i j : Rat) * xj) x).sum

/-- least `k` with `n ≤ 2^k` (`math.ceil(math.log2 n)`), by fuel. -/
def ceilLog2Go (n : Nat) : Nat → Nat → Nat
  | 0, k => k
  | fuel + 1, k => if n ≤ 2 ^ k then k else ceilLog2Go n fuel (k + 1)

def ceilLog2 (n : Nat) : Nat := ceilLog2Go n n 0

def padTo (d : Nat) (x : List Rat) : List Rat := x ++ List.replicate (d - x.length) 0

/-- `√d · structured_rotation(x)`: `H (D · pad x)`. -/
def rotU (signs x : List Rat) : List Rat :=
  let k := ceilLog2 x.length
  hadamard k (List.zipWith (· * ·) (padTo (2 ^ k) x) signs)

/-- `inverse_structured_rotation` with both `1/√d` factors applied at the end. -/
def invRotU (signs : List Rat) (n : Nat) (y : List Rat) : List Rat :=
  let k := ceilLog2 n
  ((List.zipWith (· * ·) (hadamard k y) signs).take n).map (· / (2 ^ k : Nat))

/-! ### trees, weighted mean (`tree_util.tree_mean`) -/

def treeScale (w : Rat) (t : Tree) : Tree := t.map (·.map (w * ·))
def treeAdd (a b : Tree) : Tree := List.zipWith (List.zipWith (· + ·)) a b
def treeSize (t : Tree) : Nat := (t.map List.length).sum

/-- `tree_mean`: fold of `tree_weight`/`tree_add`, then `1/Σw` if `Σw > 0` else `0`.
`none` when there is no client (the real code returns `None`). -/
def treeMean : List (Tree × Rat) → Option Tree
  | [] => none
  | (t, w) :: rest =>
    let s := rest.foldl (fun acc p => treeAdd acc (treeScale p.2 p.1)) (treeScale w t)
    let W := rest.foldl (fun acc p => acc + p.2) (0 + w)
    some (treeScale (if 0 < W then 1 / W else 0) s)

/-! ### keys -/

/-- the `c`-th key of `hk.PRNGSequence(use)` (reserve size 1: `key, sub = split(key)`). -/
def clientKey (use : Path) (c : Nat) : Path := use ++ List.replicate c (2, 0) ++ [(2, 1)]

/-- `jax.random.split(key, nl)[l]` -/
def leafKey (key : Path) (nl l : Nat) : Path := key ++ [(nl, l)]

/-- `for l, r in zip(leaves, split(rng, len(leaves)))` applied to one tree. -/
def mapLeaves (f : Path → List Rat → List Rat) (key : Path) (t : Tree) : Tree :=
  (List.range t.length).zipWith (fun l leaf => f (leafKey key t.length l) leaf) t

/-! ### aggregators -/

structure CState where
  /-- coefficient of `log₂ L` (resp. `log₂ 3`) in `num_bits` -/
  logBits : Nat
  /-- constant part of `num_bits` -/
  constBits : Nat
  rng : Path
deriving Repr, DecidableEq

def initState (root : Path) : CState := ⟨0, 0, root⟩

def aggSize : Option Tree → Nat
  | none => 0
  | some t => treeSize t

def aggLeaves : Option Tree → Nat
  | none => 0
  | some t => t.length

/-- quantise every client with its own key, average (`zip(clients, rng_seq)`, `starmap`, `tree_mean`). -/
def quantClients (f : Path → Tree → Tree) (use : Path) (clients : List (Tree × Rat)) :
    List (Tree × Rat) :=
  (List.range clients.length).zipWith (fun c p => (f (clientKey use c) p.1, p.2)) clients

/-- `uniform_stochastic_quantizer(L, rng).apply` (encode_algorithm = None). -/
def uniformRound (L : Nat) (draw : Path → List Rat) (st : CState) (clients : List (Tree × Rat)) :
    Option Tree × CState :=
  let rng := st.rng ++ [(2, 0)]
  let use := st.rng ++ [(2, 1)]
  let agg := treeMean (quantClients (mapLeaves fun k leaf => uniformQ L (draw k) leaf) use clients)
  (agg, ⟨st.logBits + aggSize agg, st.constBits + 32 * (2 * aggLeaves agg), rng⟩)

/-- `terngrad_quantizer(rng).apply`; `sigma key` = `jnp.std` of the leaf quantised with `key`. -/
def ternRound (draw : Path → List Rat) (sigma : Path → Rat) (st : CState)
    (clients : List (Tree × Rat)) : Option Tree × CState :=
  let rng := st.rng ++ [(2, 0)]
  let use := st.rng ++ [(2, 1)]
  let agg := treeMean (quantClients (mapLeaves fun k leaf => ternQ (sigma k) (draw k) leaf) use clients)
  (agg, ⟨st.logBits + aggSize agg, st.constBits + 32 * (2 * aggLeaves agg), rng⟩)

/-- `rotated_uniform_stochastic_quantizer(L, rng).apply`: one rotation key per round (shared by the
clients), then a second split for the per-client quantisation keys. -/
def rotatedRound (L : Nat) (draw : Path → List Rat) (st : CState) (clients : List (Tree × Rat)) :
    Option Tree × CState :=
  let rng1 := st.rng ++ [(2, 0)]
  let rot := st.rng ++ [(2, 1)]
  let rng := rng1 ++ [(2, 0)]
  let use := rng1 ++ [(2, 1)]
  let f : Path → Tree → Tree := fun key t =>
    (List.range t.length).zipWith (fun l leaf =>
      let signs := draw (leafKey rot t.length l)
      invRotU signs leaf.length (uniformQ L (draw (leafKey key t.length l)) (rotU signs leaf))) t
  let agg := treeMean (quantClients f use clients)
  (agg, ⟨st.logBits + aggSize agg, st.constBits + 32 * (2 * aggLeaves agg), rng⟩)

/-- `structured_drive_quantizer(rng).apply`: per-client rotation keys, deterministic DRIVE. -/
def driveRound (draw : Path → List Rat) (st : CState) (clients : List (Tree × Rat)) :
    Option Tree × CState :=
  let rng := st.rng ++ [(2, 0)]
  let rot := st.rng ++ [(2, 1)]
  let f : Path → Tree → Tree := mapLeaves fun k leaf =>
    let signs := draw k
    invRotU signs leaf.length (drive (rotU signs leaf))
  let agg := treeMean (quantClients f rot clients)
  (agg, ⟨st.logBits, st.constBits + aggSize agg + 32 * (2 * aggLeaves agg), rng⟩)

/-- runs the rounds of one aggregator, threading the state; one `(aggregate, new state)` per round. -/
def history (step : CState → List (Tree × Rat) → Option Tree × CState) :
    CState → List (List (Tree × Rat)) → List (Option Tree × CState)
  | _, [] => []
  | st, cs :: rest => let r := step st cs; r :: history step r.2 rest

/-- the aggregator state after all rounds -/
def finalState (step : CState → List (Tree × Rat) → Option Tree × CState) (st : CState)
    (rounds : List (List (Tree × Rat))) : CState :=
  rounds.foldl (fun s cs => (step s cs).2) st

/-! ### the draw keys of a history (what `C11_keys_fresh` is about) -/

/-- state key after `r` rounds: `split(·)[0]` once per round (twice for the rotated aggregator). -/
def stateRng (perRound : Nat) (root : Path) (r : Nat) : Path :=
  root ++ List.replicate (perRound * r) (2, 0)

/-- key of the uniform draw (uniform / TernGrad) or of the Rademacher signs (DRIVE) for
`(round r, client c, leaf l)`. -/
def drawKey (root : Path) (nl r c l : Nat) : Path :=
  leafKey (clientKey (stateRng 1 root r ++ [(2, 1)]) c) nl l

/-- rotated aggregator: quantisation draw for `(r, c, l)` and rotation signs for `(r, l)`. -/
def rotDrawKey (root : Path) (nl r c l : Nat) : Path :=
  leafKey (clientKey (stateRng 2 root r ++ [(2, 0)] ++ [(2, 1)]) c) nl l

def rotSignKey (root : Path) (nl r l : Nat) : Path :=
  leafKey (stateRng 2 root r ++ [(2, 1)]) nl l

end FedjaxVerif.Quantize
