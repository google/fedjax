/-
Model of `fedjax/core/client_datasets.py`: `ShuffleRepeatBatchView` (C04).

  * `__init__`  ↦ `numSteps`   (`none` = `_num_steps is None`, the unbounded stream)
  * `__iter__`  ↦ `stream` (outer `while num_steps < desired_num_steps`) over
                  `fill`   (inner `while filled < desired_size`, fuel = `batch_size`).

State of the iteration (`St`): `rest` = the unused portion `buf[i:]` of the index buffer,
`epoch` = how many times the buffer has been (re)shuffled so far.  numpy's `rng.shuffle(buf)` is an
external: it enters as the oracle `perms : Nat → List Nat`, `perms j` = content of `buf` after the
`j`-th shuffle (`j = 0` is the first one; with `skip_shuffle` the buffer stays `arange(N)`, i.e.
`perms j = range N`).  The real code starts with `i = buf_size` (nothing unused), hence
`St.init = ⟨[], 0⟩`, and reshuffles only when `available == 0`.  An empty dataset is not modelled:
the source returns before the loop (`if buf_size == 0: return`, no batches), the model has no such
guard.
Core Lean only (no Mathlib): this file is linked into the driver executable.
-/

namespace FedjaxVerif.Shuffle

/-- `ShuffleRepeatBatchView.__init__`: the number of batches; `none` = iterate forever. -/
def numSteps (N bs : Nat) (epochs steps : Option Nat) (drop : Bool) : Option Nat :=
  match epochs with
  | some E =>
    let k := if drop then N * E / bs else (N * E + bs - 1) / bs
    match steps with
    | some S => some (min S k)
    | none => some k
  | none =>
    match steps with
    | some S => some S
    | none => none

structure St where
  rest  : List Nat
  epoch : Nat

/-- state at the start of `__iter__`: `i = buf_size`, no shuffle done yet. -/
def St.init : St := { rest := [], epoch := 0 }

/-- inner loop `while filled < desired_size` (`need = desired_size - filled`); one unit of fuel
per iteration.  Returns the drawn indices and the state afterwards. -/
def fill (perms : Nat → List Nat) : Nat → Nat → St → List Nat × St
  | 0, _, st => ([], st)
  | _, 0, st => ([], st)
  | fuel+1, need+1, st =>
    let st' : St := if st.rest.isEmpty then { rest := perms st.epoch, epoch := st.epoch + 1 } else st
    let used := min st'.rest.length (need+1)
    let r := fill perms fuel (need + 1 - used) { st' with rest := st'.rest.drop used }
    (st'.rest.take used ++ r.1, r.2)

/-- outer loop: `k` batches of `bs` indices each (fuel `bs` for the inner loop: every iteration
draws at least one index when the dataset is non-empty). -/
def stream (perms : Nat → List Nat) (bs : Nat) : Nat → St → List (List Nat)
  | 0, _ => []
  | k+1, st =>
    let r := fill perms bs bs st
    r.1 :: stream perms bs k r.2

/-- `perms j ++ perms (j+1) ++ …` (`e` epochs). -/
def epochs (perms : Nat → List Nat) : Nat → Nat → List Nat
  | 0, _ => []
  | e+1, j => perms j ++ epochs perms e (j+1)

/-- the whole iteration: `none` = unbounded (the caller decides how many batches to look at). -/
def run (perms : Nat → List Nat) (N bs : Nat) (epochs steps : Option Nat) (drop : Bool) :
    Option (List (List Nat)) :=
  (numSteps N bs epochs steps drop).map fun k => stream perms bs k St.init

end FedjaxVerif.Shuffle
