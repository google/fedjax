import FedjaxVerif.Model.Shuffle
import FedjaxVerif.Lemmas.Ceil
import FedjaxVerif.Lemmas.Blocks

/-!
# C04 — shuffled batching samples without replacement, exact count, seeded

Property theorems about `Model/Shuffle.lean` (the model of `ShuffleRepeatBatchView`).
`n` = dataset size (`n ≥ 1`: the property speaks of non-empty datasets — for `n = 0` the source
returns at once, which the model does not mirror: its refill loop makes no progress there),
`bs ≥ 1` the batch size, `perms j` the content of the index buffer after the
`j`-th `rng.shuffle` (an external; hypothesis `∀ j, (perms j).length = n`, and for the sampling
claims `∀ j, (perms j).Perm (range n)`).

The drawn stream is a prefix of `perms 0 ++ perms 1 ++ …` (`fill_spec`, `stream_spec`,
`C04_stream_eq`); that stream consists of blocks of length `n` (`Lemmas/Blocks.lean`), from which
the claims about windows, indices and usage counts are read off.
-/

namespace FedjaxVerif.Shuffle

theorem take_append_drop_take {α} (l t : List α) (u m : Nat) (hu : u ≤ l.length) (hm : u ≤ m) :
    l.take u ++ ((l.drop u ++ t).take (m - u)) = (l ++ t).take m := by
  rw [← List.drop_append_of_le_length hu, ← List.take_append_of_le_length (l₂ := t) hu,
    ← List.take_add, Nat.add_sub_cancel' hm]

theorem epochs_eq_flatMap (perms : Nat → List Nat) :
    ∀ e j, epochs perms e j = (List.range e).flatMap fun i => perms (j + i)
  | 0, _ => rfl
  | e + 1, j => by
    rw [epochs, epochs_eq_flatMap perms e, List.range_succ_eq_map, List.flatMap_cons,
      List.flatMap_map]
    simp only [Nat.add_zero, Nat.add_assoc, Nat.add_comm 1]

section
variable {perms : Nat → List Nat} {n : Nat} (hlen : ∀ j, (perms j).length = n)
include hlen

theorem length_epochs (e j : Nat) : (epochs perms e j).length = e * n := by
  rw [epochs_eq_flatMap]
  exact Blocks.length_flatMap_range _ (fun _ => hlen _) e

theorem epochs_take_mul {q e : Nat} (h : q ≤ e) (j : Nat) :
    (epochs perms e j).take (q * n) = epochs perms q j := by
  rw [epochs_eq_flatMap, epochs_eq_flatMap]
  exact Blocks.flatMap_range_take_mul _ (fun _ => hlen _) h

theorem epochs_drop_take {w e m : Nat} (hw : w < e) (hm : m ≤ n) (j : Nat) :
    ((epochs perms e j).drop (w * n)).take m = (perms (j + w)).take m := by
  rw [epochs_eq_flatMap]
  exact Blocks.flatMap_range_drop_take _ (fun _ => hlen _) hw hm

end

/-- what the iteration will draw from state `st` on, looking `e` reshuffles ahead -/
def future (perms : Nat → List Nat) (e : Nat) (st : St) : List Nat :=
  st.rest ++ epochs perms e st.epoch

theorem length_future {perms : Nat → List Nat} {n : Nat} (hlen : ∀ j, (perms j).length = n)
    (e : Nat) (st : St) : (future perms e st).length = st.rest.length + e * n := by
  rw [future, List.length_append, length_epochs hlen]

/-- the state the refill loop draws from: the buffer is reshuffled when it is exhausted -/
def refill (perms : Nat → List Nat) (st : St) : St :=
  if st.rest.isEmpty then { rest := perms st.epoch, epoch := st.epoch + 1 } else st

/-- reshuffling an exhausted buffer uses up one epoch of look-ahead and keeps the future -/
theorem refill_spec {perms : Nat → List Nat} {n : Nat} (hn : 0 < n)
    (hlen : ∀ j, (perms j).length = n) {st : St} {e : Nat} (h : 0 < st.rest.length + e * n) :
    0 < (refill perms st).rest.length ∧
      ∃ e', e' ≤ e ∧ future perms e' (refill perms st) = future perms e st := by
  obtain ⟨rest, ep⟩ := st
  cases rest with
  | nil =>
    cases e with
    | zero =>
      rw [Nat.zero_mul] at h
      exact absurd h (Nat.lt_irrefl _)
    | succ e => exact ⟨hlen ep ▸ hn, e, Nat.le_succ e, rfl⟩
  | cons a l => exact ⟨Nat.succ_pos _, e, Nat.le_refl e, rfl⟩

/-- The refill loop draws exactly the next `need` items of the concatenated epochs, and leaves a
state whose future is the old future minus those items. -/
theorem fill_spec (perms : Nat → List Nat) (n : Nat) (hn : 0 < n)
    (hlen : ∀ j, (perms j).length = n) :
    ∀ fuel need (st : St), need ≤ fuel → ∀ e, need ≤ st.rest.length + e * n →
      (fill perms fuel need st).1 = (future perms e st).take need ∧
      ∃ e2, e2 ≤ e ∧ future perms e2 (fill perms fuel need st).2 = (future perms e st).drop need := by
  intro fuel need st h e he
  induction fuel generalizing need st e with
  | zero =>
    cases Nat.le_zero.mp h
    exact ⟨rfl, e, Nat.le_refl _, rfl⟩
  | succ fuel ih =>
    cases need with
    | zero => exact ⟨rfl, e, Nat.le_refl _, rfl⟩
    | succ need =>
      rw [fill, ← refill]
      obtain ⟨hpos, e', hle, hfut⟩ :=
        refill_spec hn hlen (Nat.lt_of_lt_of_le (Nat.succ_pos _) he)
      -- the refilled state has the same future, so the bound `he` holds of it
      rw [← length_future hlen, ← hfut, length_future hlen] at he
      generalize refill perms st = st' at hpos hfut he ⊢
      -- `used ≥ 1` items are drawn from the buffer, the rest by the loop from what follows
      have hu : min st'.rest.length (need + 1) ≤ st'.rest.length := Nat.min_le_left ..
      have hm : min st'.rest.length (need + 1) ≤ need + 1 := Nat.min_le_right ..
      have hu0 : 0 < min st'.rest.length (need + 1) := Nat.lt_min.mpr ⟨hpos, Nat.succ_pos _⟩
      generalize min st'.rest.length (need + 1) = used at hu hm hu0 ⊢
      have hfuel : need + 1 - used ≤ fuel :=
        Nat.sub_le_of_le_add (Nat.le_trans h (Nat.add_le_add_left hu0 fuel))
      obtain ⟨i1, e2, he2, i2⟩ :=
        ih (need + 1 - used) { st' with rest := st'.rest.drop used } hfuel e' (by
          rw [List.length_drop, ← Nat.sub_add_comm hu]
          exact Nat.sub_le_sub_right he used)
      rw [← hfut]
      refine ⟨i1 ▸ take_append_drop_take _ _ _ _ hu hm, e2, Nat.le_trans he2 hle, i2.trans ?_⟩
      rw [future, future, ← List.drop_append_of_le_length hu, List.drop_drop,
        Nat.add_sub_cancel' hm]

theorem stream_spec {perms : Nat → List Nat} {n : Nat} (bs : Nat) (hn : 0 < n)
    (hlen : ∀ j, (perms j).length = n) (k : Nat) (st : St) (e : Nat)
    (he : k * bs ≤ st.rest.length + e * n) :
    (stream perms bs k st).flatten = (future perms e st).take (k * bs) ∧
    (∀ b ∈ stream perms bs k st, b.length = bs) ∧ (stream perms bs k st).length = k := by
  induction k generalizing st e with
  | zero =>
    rw [Nat.zero_mul]
    exact ⟨rfl, nofun, rfl⟩
  | succ k ih =>
    rw [Nat.succ_mul] at he
    have hbs : bs ≤ st.rest.length + e * n := Nat.le_trans (Nat.le_add_left ..) he
    obtain ⟨h1, e2, _, h2⟩ := fill_spec perms n hn hlen bs bs st (Nat.le_refl _) e hbs
    have hF := length_future hlen e st
    obtain ⟨i1, i2, i3⟩ := ih (fill perms bs bs st).2 e2 (by
      rw [← length_future hlen, h2, List.length_drop, hF]
      exact Nat.le_sub_of_add_le he)
    rw [stream]
    refine ⟨?_, List.forall_mem_cons.mpr ⟨?_, i2⟩, congrArg (· + 1) i3⟩
    · rw [List.flatten_cons, i1, h1, h2, Nat.succ_mul, Nat.add_comm (k * bs) bs, List.take_add]
    · rw [h1, List.length_take, hF, Nat.min_eq_left hbs]

theorem length_of_perm {perms : Nat → List Nat} {n : Nat}
    (hperm : ∀ j, (perms j).Perm (List.range n)) (j : Nat) : (perms j).length = n := by
  rw [(hperm j).length_eq, List.length_range]

theorem count_epochs {perms : Nat → List Nat} {n : Nat}
    (hperm : ∀ j, (perms j).Perm (List.range n)) {i : Nat} (hi : i < n) (q j : Nat) :
    (epochs perms q j).count i = q := by
  induction q generalizing j with
  | zero => rfl
  | succ q ih =>
    rw [epochs, List.count_append, ih, (hperm j).count_eq, List.nodup_range.count,
      if_pos (List.mem_range.mpr hi), Nat.add_comm]

/-- **Main clause.** The concatenation of the first `k` batches is the first `k*bs` entries of
`perms 0 ++ perms 1 ++ …`: indices are consumed in buffer order, the buffer is reshuffled exactly
when it is exhausted, a batch is filled across epoch boundaries, nothing is skipped or repeated.
(`e` is any look-ahead with `k*bs ≤ e*n`, e.g. `e = k*bs`.) -/
theorem C04_stream_eq (perms : Nat → List Nat) (n bs : Nat) (hn : 0 < n)
    (hlen : ∀ j, (perms j).length = n) (k e : Nat) (he : k * bs ≤ e * n) :
    (stream perms bs k St.init).flatten = (epochs perms e 0).take (k * bs) :=
  (stream_spec bs hn hlen k St.init e (Nat.le_trans he (Nat.le_add_left ..))).1

/-- a look-ahead of `k * bs` epochs or more always suffices (`n ≥ 1`); the slack `d` lets the caller
have a particular epoch inside the look-ahead -/
theorem flatten_stream_eq_take_epochs {perms : Nat → List Nat} {n bs : Nat} (hn : 0 < n)
    (hlen : ∀ j, (perms j).length = n) (k d : Nat) :
    (stream perms bs k St.init).flatten = (epochs perms (d + k * bs) 0).take (k * bs) :=
  C04_stream_eq perms n bs hn hlen k _
    (Nat.le_trans (Nat.le_add_left ..) (Nat.le_mul_of_pos_right _ hn))

theorem stream_window {perms : Nat → List Nat} {n bs : Nat} (hn : 0 < n)
    (hlen : ∀ j, (perms j).length = n) (k w : Nat) {m : Nat} (hm : m ≤ n) (hw : w * n + m ≤ k * bs) :
    (((stream perms bs k St.init).flatten).drop (w * n)).take m = (perms w).take m := by
  rw [flatten_stream_eq_take_epochs hn hlen k (w + 1), List.drop_take, List.take_take,
    Nat.min_eq_left (Nat.le_sub_of_add_le' hw),
    epochs_drop_take hlen (Nat.lt_of_lt_of_le (Nat.lt_succ_self w) (Nat.le_add_right ..)) hm,
    Nat.zero_add]

/-- Every batch has exactly `bs` rows and `stream … k` has exactly `k` batches; in particular the
inner loop terminates within fuel `bs` (it would not for `n = 0`). -/
theorem C04_batch_size (perms : Nat → List Nat) (n bs : Nat) (hn : 0 < n)
    (hlen : ∀ j, (perms j).length = n) (k : Nat) :
    (stream perms bs k St.init).length = k ∧ ∀ b ∈ stream perms bs k St.init, b.length = bs := by
  have h := stream_spec bs hn hlen k St.init (k * bs)
    (Nat.le_trans (Nat.le_mul_of_pos_right _ hn) (Nat.le_add_left ..))
  exact ⟨h.2.2, h.2.1⟩

/-- The refill loop needs at most `bs` iterations: more fuel changes nothing. -/
theorem C04_fill_terminates (perms : Nat → List Nat) (n bs : Nat) (hn : 0 < n)
    (hlen : ∀ j, (perms j).length = n) (st : St) (extra : Nat) :
    (fill perms (bs + extra) bs st).1 = (fill perms bs bs st).1 ∧
    ((fill perms bs bs st).1).length = bs := by
  have hb : bs ≤ st.rest.length + bs * n :=
    Nat.le_trans (Nat.le_mul_of_pos_right bs hn) (Nat.le_add_left ..)
  have h1 := (fill_spec perms n hn hlen (bs + extra) bs st (Nat.le_add_right ..) bs hb).1
  have h2 := (fill_spec perms n hn hlen bs bs st (Nat.le_refl _) bs hb).1
  refine ⟨h1.trans h2.symm, ?_⟩
  rw [h2, List.length_take, length_future hlen, Nat.min_eq_left hb]

/-- The `t`-th drawn index is entry `t % n` of the `(t / n)`-th buffer content. -/
theorem C04_index (perms : Nat → List Nat) (n bs : Nat) (hn : 0 < n)
    (hlen : ∀ j, (perms j).length = n) (k t : Nat) (ht : t < k * bs) :
    (stream perms bs k St.init).flatten[t]? = (perms (t / n))[t % n]? := by
  -- entry `t % n` of the window that starts at `t / n * n`
  have hw : t / n * n + (t % n + 1) ≤ k * bs := by
    rw [← Nat.add_assoc, Nat.div_add_mod']
    exact ht
  have := congrArg (·[t % n]?) (stream_window hn hlen k (t / n) (Nat.mod_lt t hn) hw)
  simpa only [List.getElem?_take, Nat.lt_succ_self, if_true, List.getElem?_drop,
    Nat.div_add_mod'] using this

/-- Cutting the drawn stream into windows of `n`: every complete window **is** the buffer content
of its epoch (`perms w`). -/
theorem C04_window_eq (perms : Nat → List Nat) (n bs : Nat) (hn : 0 < n)
    (hlen : ∀ j, (perms j).length = n) (k w : Nat) (hw : (w + 1) * n ≤ k * bs) :
    (((stream perms bs k St.init).flatten).drop (w * n)).take n = perms w := by
  rw [stream_window hn hlen k w (Nat.le_refl n) (Nat.succ_mul .. ▸ hw)]
  exact List.take_of_length_le (Nat.le_of_eq (hlen w))

/-- Every complete window of `n` consecutive draws is a permutation of the dataset when numpy's
shuffle returns permutations. -/
theorem C04_windows_perm (perms : Nat → List Nat) (n bs : Nat) (hn : 0 < n)
    (hperm : ∀ j, (perms j).Perm (List.range n)) (k w : Nat) (hw : (w + 1) * n ≤ k * bs) :
    ((((stream perms bs k St.init).flatten).drop (w * n)).take n).Perm (List.range n) := by
  have hlen := length_of_perm hperm
  rw [C04_window_eq perms n bs hn hlen k w hw]
  exact hperm w

/-- No duplicates inside a window, complete or not: any `m ≤ n` consecutive draws starting at a
window boundary are pairwise distinct (they are a prefix of that epoch's permutation) — in
particular a run of fewer than `n` draws in total never repeats an example (sampling is without
replacement even when `num_steps * bs < n`). -/
theorem C04_prefix_nodup (perms : Nat → List Nat) (n bs : Nat) (hn : 0 < n)
    (hperm : ∀ j, (perms j).Perm (List.range n)) (k w m : Nat) (hm : m ≤ n)
    (hw : w * n + m ≤ k * bs) :
    ((((stream perms bs k St.init).flatten).drop (w * n)).take m) = (perms w).take m ∧
    ((((stream perms bs k St.init).flatten).drop (w * n)).take m).Nodup := by
  have hlen := length_of_perm hperm
  have e := stream_window hn hlen k w hm hw
  exact ⟨e, e ▸ ((hperm w).nodup_iff.mpr List.nodup_range).sublist (List.take_sublist ..)⟩

/-- The first `⌈n/bs⌉` batches cover every example. -/
theorem C04_first_cover (perms : Nat → List Nat) (n bs : Nat) (hn : 0 < n) (hbs : 0 < bs)
    (hperm : ∀ j, (perms j).Perm (List.range n)) (i : Nat) (hi : i < n) :
    i ∈ (stream perms bs ((n + bs - 1) / bs) St.init).flatten := by
  have h := C04_windows_perm perms n bs hn hperm ((n + bs - 1) / bs) 0
    (by rw [Nat.zero_add, Nat.one_mul]; exact Ceil.le_ceil_mul n hbs)
  rw [Nat.zero_mul, List.drop_zero] at h
  exact List.mem_of_mem_take ((h.mem_iff).mpr (List.mem_range.mpr hi))

/-- After any number `m` of draws every example has been used `m / n` or `m / n + 1` times: usage
counts of two examples never differ by more than one (sampling without replacement). -/
theorem C04_balanced (perms : Nat → List Nat) (n bs : Nat) (hn : 0 < n)
    (hperm : ∀ j, (perms j).Perm (List.range n)) (k m : Nat) (hm : m ≤ k * bs)
    (i : Nat) (hi : i < n) :
    m / n ≤ (((stream perms bs k St.init).flatten).take m).count i ∧
    (((stream perms bs k St.init).flatten).take m).count i ≤ m / n + 1 := by
  have hlen := length_of_perm hperm
  have hq : m / n + 1 ≤ 1 + k * bs := by
    rw [Nat.add_comm 1]
    exact Nat.succ_le_succ (Nat.le_trans (Nat.div_le_self ..) hm)
  rw [flatten_stream_eq_take_epochs hn hlen k 1, List.take_take, Nat.min_eq_left hm]
  -- the first `m` draws lie between `m / n` and `m / n + 1` whole epochs, each using `i` once
  have cnt {q : Nat} (h : q ≤ 1 + k * bs) :
      ((epochs perms (1 + k * bs) 0).take (q * n)).count i = q := by
    rw [epochs_take_mul hlen h, count_epochs hperm hi]
  constructor
  · rw [← cnt (Nat.le_of_succ_le hq)]
    exact (List.take_sublist_take_left (Nat.div_mul_le_self m n)).count_le i
  · rw [← cnt hq]
    -- `m < m / n * n + n = (m / n + 1) * n`
    exact (List.take_sublist_take_left (Nat.le_of_lt (Nat.succ_mul .. ▸ Nat.lt_div_mul_add hn))).count_le i

/-- After any number `m` of draws the usage counts of two examples differ by at most one. -/
theorem C04_balanced_pair (perms : Nat → List Nat) (n bs : Nat) (hn : 0 < n)
    (hperm : ∀ j, (perms j).Perm (List.range n)) (k m : Nat) (hm : m ≤ k * bs)
    (i j : Nat) (hi : i < n) (hj : j < n) :
    (((stream perms bs k St.init).flatten).take m).count i
      ≤ (((stream perms bs k St.init).flatten).take m).count j + 1 :=
  Nat.le_trans (C04_balanced perms n bs hn hperm k m hm i hi).2
    (Nat.succ_le_succ (C04_balanced perms n bs hn hperm k m hm j hj).1)

/-- With shuffling disabled (`perms j = range n`) the stream is the cyclic original order. -/
theorem C04_skip_shuffle (n bs : Nat) (hn : 0 < n) (k t : Nat) (ht : t < k * bs) :
    (stream (fun _ => List.range n) bs k St.init).flatten[t]? = some (t % n) := by
  rw [C04_index (fun _ => List.range n) n bs hn (fun _ => List.length_range) k t ht]
  exact List.getElem?_range (Nat.mod_lt _ hn)

/-- The number of batches is the documented function of `(N, bs, num_epochs, num_steps,
drop_remainder)`: epochs only — the fewest batches covering `E` passes (`⌈N·E/bs⌉`), or with
`drop_remainder` the most batches that fit into `E` passes (`⌊N·E/bs⌋`); steps only — `S`;
both — the smaller; neither — unbounded. -/
theorem C04_count (N bs : Nat) (hbs : 0 < bs) (E S : Nat) (drop : Bool) :
    (∃ k, numSteps N bs (some E) none false = some k ∧ N * E ≤ k * bs ∧ k * bs < N * E + bs) ∧
    (∃ k, numSteps N bs (some E) none true = some k ∧ k * bs ≤ N * E ∧ N * E < k * bs + bs) ∧
    numSteps N bs none (some S) drop = some S ∧
    numSteps N bs (some E) (some S) drop = (numSteps N bs (some E) none drop).map (min S) ∧
    numSteps N bs none none drop = none :=
  ⟨⟨_, rfl, Ceil.le_ceil_mul _ hbs, Ceil.ceil_mul_lt _ hbs⟩,
    ⟨_, rfl, Nat.div_mul_le_self .., Nat.lt_div_mul_add hbs⟩, rfl, by cases drop <;> rfl, rfl⟩

/-- The whole view: whenever the step count is bounded, `run` yields exactly that many batches of
exactly `bs` rows whose concatenation is a prefix of the concatenated epochs. -/
theorem C04_run (perms : Nat → List Nat) (n bs : Nat) (hn : 0 < n)
    (hlen : ∀ j, (perms j).length = n) (E S : Option Nat) (drop : Bool) (k : Nat)
    (hk : numSteps n bs E S drop = some k) :
    ∃ bsx, run perms n bs E S drop = some bsx ∧ bsx.length = k ∧ (∀ b ∈ bsx, b.length = bs) ∧
      bsx.flatten = (epochs perms (k * bs) 0).take (k * bs) := by
  refine ⟨stream perms bs k St.init, by rw [run, hk]; rfl, ?_, ?_, ?_⟩
  · exact (C04_batch_size perms n bs hn hlen k).1
  · exact (C04_batch_size perms n bs hn hlen k).2
  · exact C04_stream_eq perms n bs hn hlen k (k * bs) (Nat.le_mul_of_pos_right _ hn)

def demoPerms (j : Nat) : List Nat := if j % 2 = 0 then [3, 1, 4, 0, 2] else [2, 0, 3, 4, 1]

theorem demoPerms_perm : ∀ j, (demoPerms j).Perm (List.range 5) := by
  intro j
  unfold demoPerms
  split <;> decide

theorem demoPerms_length (j : Nat) : (demoPerms j).length = 5 := (demoPerms_perm j).length_eq

example : stream demoPerms 3 4 St.init = [[3, 1, 4], [0, 2, 2], [0, 3, 4], [1, 3, 1]] := by
  decide +kernel
example : stream demoPerms 7 2 St.init = [[3, 1, 4, 0, 2, 2, 0], [3, 4, 1, 3, 1, 4, 0]] := by
  decide +kernel
example : (((stream demoPerms 3 4 St.init).flatten).drop (1 * 5)).take 5 = demoPerms 1 :=
  C04_window_eq demoPerms 5 3 (by decide) demoPerms_length 4 1 (by decide)
example : ∀ i, i < 5 → i ∈ (stream demoPerms 3 ((5 + 3 - 1) / 3) St.init).flatten :=
  fun i hi => C04_first_cover demoPerms 5 3 (by decide) (by decide) demoPerms_perm i hi
example : (stream (fun _ => List.range 3) 2 3 St.init) = [[0, 1], [2, 0], [1, 2]] := by
  decide +kernel
example : numSteps 5 2 (some 1) none false = some 3 ∧ numSteps 5 2 (some 1) none true = some 2 ∧
    numSteps 5 2 (some 3) (some 4) false = some 4 ∧ numSteps 5 2 none (some 9) true = some 9 ∧
    numSteps 5 7 (some 1) none false = some 1 ∧ numSteps 5 7 (some 1) none true = some 0 := by
  decide +kernel
example : (stream demoPerms 3 4 St.init).length = 4 ∧ ∀ b ∈ stream demoPerms 3 4 St.init, b.length = 3 :=
  C04_batch_size demoPerms 5 3 (by decide) demoPerms_length 4
example : 7 / 5 ≤ (((stream demoPerms 3 4 St.init).flatten).take 7).count 2 ∧
    (((stream demoPerms 3 4 St.init).flatten).take 7).count 2 ≤ 7 / 5 + 1 :=
  C04_balanced demoPerms 5 3 (by decide) demoPerms_perm 4 7 (by decide) 2 (by decide)
example : (((stream demoPerms 3 4 St.init).flatten).take 7).count 2 = 2 ∧
    (((stream demoPerms 3 4 St.init).flatten).take 7).count 4 = 1 := by decide +kernel
example : (stream (fun _ => List.range 3) 2 3 St.init).flatten[4]? = some (4 % 3) :=
  C04_skip_shuffle 3 2 (by decide) 3 4 (by decide)
example : (stream demoPerms 3 4 St.init).flatten[8]? = (demoPerms (8 / 5))[8 % 5]? :=
  C04_index demoPerms 5 3 (by decide) demoPerms_length 4 8 (by decide)
example : ∃ bsx, run demoPerms 5 3 (some 2) none false = some bsx ∧ bsx.length = 4 ∧
    (∀ b ∈ bsx, b.length = 3) ∧ bsx.flatten = (epochs demoPerms (4 * 3) 0).take (4 * 3) :=
  C04_run demoPerms 5 3 (by decide) demoPerms_length (some 2) none false 4 (by decide)
example : (((stream demoPerms 3 1 St.init).flatten).drop (0 * 5)).take 3 = [3, 1, 4] ∧
    ((((stream demoPerms 3 1 St.init).flatten).drop (0 * 5)).take 3).Nodup :=
  C04_prefix_nodup demoPerms 5 3 (by decide) demoPerms_perm 1 0 3 (by decide) (by decide)
/-- the hypothesis `0 < n` is necessary: on an empty dataset the refill loop makes no progress
(the batch stays short however much fuel it gets) -/
example : (fill (fun _ => []) 100 3 St.init).1 = [] := by decide +kernel

end FedjaxVerif.Shuffle
