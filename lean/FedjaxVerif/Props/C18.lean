import FedjaxVerif.Model.Hadamard
import FedjaxVerif.Lemmas.Vec
import FedjaxVerif.Lemmas.Ceil
import Mathlib.Tactic.Ring
import Mathlib.Analysis.Real.Sqrt

/-!
# C18 — Walsh–Hadamard transform is exact; structured rotation invertible

Property theorems about `Model/Hadamard.lean` (model of `fedjax/aggregators/walsh_hadamard.py`).
All statements are generic in the scalar type: they hold over every commutative ring `α`
(`ℚ` — every finite float is a dyadic rational —, `ℤ`, and `ℝ`, where `1/sqrt d` lives).

How the proofs hang together: the Sylvester matrix factors entry-wise over the digits of its indices
(`hEntry_split`), so `H_{2^(k+s)}·x` is one einsum with `H_{2^k}` along axis 0 followed by `H_{2^s}` on
every row (`hmul_kron`).  `applyAxes_eq` is the induction on the shape list, one Kronecker factor per
axis, and the reshape schedule of a length `2^k` is the list of exponents `expsOf` (`shapeOf_pow`); together
they give `fwht (2^s) x = H_{2^k}·x` for every block size the code accepts.  Orthogonality `H·H = 2^k·I`
(`hEntry_orth`, from the 2×2 table by the same factorisation) gives `hmul_hmul`, and norm and inverse of
the rotation follow from it (`rotU_spec`, `rot_spec`) for every size `≥ 1` and `≤ 2^56`, the code's 8-axis
limit at the default block size 128.
Not a theorem: "different keys draw different sign vectors" (idealised PRNG; monitored by the harness).
-/

namespace FedjaxVerif.Hadamard

theorem bitSign_comm (a b : Nat) : bitSign a b = bitSign b a := by
  simp only [bitSign, and_comm]

theorem hEntry_comm (k i j : Nat) : hEntry k i j = hEntry k j i := by
  induction k generalizing i j with
  | zero => rfl
  | succ k ih => rw [hEntry, hEntry, bitSign_comm, ih]

theorem bitSign_mod (i j s : Nat) : bitSign (i % 2 ^ (s+1)) (j % 2 ^ (s+1)) = bitSign i j := by
  rw [bitSign, Nat.pow_succ', Nat.mod_mul_right_mod, Nat.mod_mul_right_mod, bitSign]

theorem hEntry_split (k s : Nat) : ∀ i j : Nat,
    hEntry (k + s) i j = hEntry k (i / 2 ^ s) (j / 2 ^ s) * hEntry s (i % 2 ^ s) (j % 2 ^ s) := by
  intro i j
  induction s generalizing i j with
  | zero => rw [Nat.add_zero, Nat.pow_zero, Nat.div_one, Nat.div_one, hEntry, mul_one]
  | succ s ih =>
    rw [← Nat.add_assoc, hEntry, hEntry, ih, bitSign_mod, Nat.pow_succ',
      Nat.mod_mul_right_div_self, Nat.mod_mul_right_div_self, Nat.div_div_eq_div_mul,
      Nat.div_div_eq_div_mul, Int.mul_left_comm]

theorem bitSign_sq (a b : Nat) : bitSign a b * bitSign a b = 1 := by
  unfold bitSign
  split <;> rfl

theorem hEntry_sq (k : Nat) : ∀ i j, hEntry k i j * hEntry k i j = 1 := by
  intro i j
  induction k generalizing i j with
  | zero => rfl
  | succ k ih => rw [hEntry, mul_mul_mul_comm, bitSign_sq, ih, mul_one]

theorem hEntry_zero_row (k j : Nat) : hEntry k 0 j = 1 := by
  induction k generalizing j with
  | zero => rfl
  | succ k ih =>
    rw [hEntry, Nat.zero_div, ih, mul_one]
    rfl

/-! ## row-major indices: `a * r + u` with `u < r` has the digits `a` and `u` -/

theorem mul_add_div_of_lt {a r u : Nat} (hu : u < r) : (a * r + u) / r = a := by
  rw [Nat.add_comm, Nat.add_mul_div_right _ _ (Nat.zero_lt_of_lt hu), Nat.div_eq_of_lt hu,
    Nat.zero_add]

theorem hEntry_digit {k s i a u : Nat} (hu : u < 2 ^ s) :
    hEntry (k + s) i (a * 2 ^ s + u) = hEntry k (i / 2 ^ s) a * hEntry s (i % 2 ^ s) u := by
  rw [hEntry_split, mul_add_div_of_lt hu, Nat.mul_add_mod_of_lt hu]

theorem flatten_range_map {α : Type} (d r : Nat) (g : Nat → Nat → α) :
    ((List.range d).map fun m => (List.range r).map (g m)).flatten
      = (List.range (d * r)).map fun i => g (i / r) (i % r) := by
  induction d with
  | zero => simp
  | succ d ih =>
    rw [List.range_succ, List.map_append, List.flatten_append, ih, Nat.succ_mul, List.range_add,
      List.map_append, List.map_map, List.map_singleton, List.flatten_singleton]
    congr 1
    refine List.map_congr_left fun t ht => ?_
    have ht := List.mem_range.1 ht
    rw [Function.comp, mul_add_div_of_lt ht, Nat.mul_add_mod_of_lt ht]

theorem prod_map_pow (ks : List Nat) : (ks.map (2 ^ ·)).prod = 2 ^ ks.sum := by
  induction ks with
  | nil => rfl
  | cons k ks ih => rw [List.map_cons, List.prod_cons, ih, List.sum_cons, pow_add]

/-! ## the matrix, its product, and the einsum schedule as that product

Sums are `Finset` sums over `range` (`sumTo_eq_sum`); coordinates are read as `x[j]?.getD 0`
(`x.getD j 0` unfolded), the form of `Lemmas/Vec`. -/

section matrix
variable {α : Type} [CommRing α]
open Finset

theorem sumTo_eq_sum (n : Nat) (f : Nat → α) : sumTo n f = ∑ i ∈ range n, f i := by
  induction n with
  | zero => rfl
  | succ n ih => simp only [sumTo, ih, sum_range_succ]

theorem sum_range_mul (d r : Nat) (f : Nat → α) :
    ∑ i ∈ range (d * r), f i = ∑ a ∈ range d, ∑ u ∈ range r, f (a * r + u) := by
  induction d with
  | zero => simp only [Nat.zero_mul, range_zero, sum_empty]
  | succ d ih => rw [Nat.succ_mul, sum_range_add, ih, sum_range_succ]

/-- The Gram matrix of a Kronecker product is the Kronecker product of the Gram matrices. -/
theorem gram_kron (k s i l : Nat) :
    ∑ j ∈ range (2 ^ (k + s)), hEntry (k + s) i j * hEntry (k + s) j l
      = (∑ a ∈ range (2 ^ k), hEntry k (i / 2 ^ s) a * hEntry k a (l / 2 ^ s))
        * ∑ u ∈ range (2 ^ s), hEntry s (i % 2 ^ s) u * hEntry s u (l % 2 ^ s) := by
  rw [pow_add, sum_range_mul, sum_mul_sum]
  refine sum_congr rfl fun a _ => sum_congr rfl fun u hu => ?_
  have hu := mem_range.1 hu
  rw [hEntry_comm _ _ l, hEntry_digit hu, hEntry_digit hu,
    hEntry_comm k (l / 2 ^ s), hEntry_comm s (l % 2 ^ s), mul_mul_mul_comm]

/-- `H₂·H₂ = 2·I`, the one table the orthogonality of every `H_{2^k}` comes from -/
theorem gram_one : ∀ a < 2 ^ 1, ∀ b < 2 ^ 1,
    ∑ u ∈ range (2 ^ 1), hEntry 1 a u * hEntry 1 u b = if a = b then 2 else 0 := by
  decide

theorem hEntry_orth {k i l : Nat} (hi : i < 2 ^ k) (hl : l < 2 ^ k) :
    ∑ j ∈ range (2 ^ k), hEntry k i j * hEntry k j l = if i = l then 2 ^ k else 0 := by
  induction k generalizing i l with
  | zero =>
    rw [Nat.lt_one_iff.1 hi, Nat.lt_one_iff.1 hl]
    rfl
  | succ k ih =>
    rw [Nat.add_comm, pow_add] at hi hl
    rw [gram_kron, ih (Nat.div_lt_of_lt_mul hi) (Nat.div_lt_of_lt_mul hl),
      gram_one _ (Nat.mod_lt _ Nat.two_pos) _ (Nat.mod_lt _ Nat.two_pos),
      ite_zero_mul_ite_zero, ← pow_succ, if_congr (Nat.ext_div_mod_iff ..).symm rfl rfl]

theorem hEntry_orth_cast {k i l : Nat} (hi : i < 2 ^ k) (hl : l < 2 ^ k) :
    ∑ j ∈ range (2 ^ k), ((hEntry k i j : Int) : α) * ((hEntry k j l : Int) : α)
      = if i = l then (2 : α) ^ k else 0 := by
  simp only [← Int.cast_mul, ← Int.cast_sum, hEntry_orth hi hl, Int.cast_ite, Int.cast_pow,
    Int.cast_ofNat, Int.cast_zero]

theorem hmul_def (k : Nat) (x : List α) :
    hmul k x = (List.range (2 ^ k)).map fun i =>
      ∑ j ∈ range (2 ^ k), ((hEntry k i j : Int) : α) * x[j]?.getD 0 := by
  simp only [hmul, Array.getD_eq_getD_getElem?, List.getElem?_toArray, sumTo_eq_sum]

theorem hmul_length (k : Nat) (x : List α) : (hmul k x).length = 2 ^ k := by
  rw [hmul_def, List.length_map, List.length_range]

/-- `i ∈ range _` is the form in which `sum_congr` and `simp +contextual` supply the bound -/
theorem hmul_getD {k i : Nat} (x : List α) (hi : i ∈ range (2 ^ k)) :
    (hmul k x)[i]?.getD 0 = ∑ j ∈ range (2 ^ k), ((hEntry k i j : Int) : α) * x[j]?.getD 0 := by
  rw [hmul_def, Vec.getD_range_map _ (mem_range.1 hi)]

theorem hmul_linear (k : Nat) (a b : α) (x y : List α) (h : x.length = y.length) :
    hmul k (List.zipWith (fun u v => a * u + b * v) x y)
      = List.zipWith (fun u v => a * u + b * v) (hmul k x) (hmul k y) := by
  simp only [hmul_def, List.zipWith_map_left, List.zipWith_map_right, List.zipWith_self]
  refine List.map_congr_left fun i _ => ?_
  rw [mul_sum, mul_sum, ← sum_add_distrib]
  refine sum_congr rfl fun j _ => ?_
  rw [Vec.getD_zipWith _ (by rw [mul_zero, mul_zero, add_zero]) x y h]
  ring

theorem hmul_smul (k : Nat) (c : α) (x : List α) :
    hmul k (x.map fun v => c * v) = (hmul k x).map fun v => c * v := by
  simpa only [List.zipWith_self, zero_mul, add_zero] using hmul_linear k c 0 x x rfl

theorem hmul_hmul {k : Nat} {x : List α} (hx : x.length = 2 ^ k) :
    hmul k (hmul k x) = x.map (fun v => (2 : α) ^ k * v) := by
  refine Vec.ext_getD (by rw [hmul_length, List.length_map, hx]) fun i hi => ?_
  rw [hmul_length, ← mem_range] at hi
  calc (hmul k (hmul k x))[i]?.getD 0
      = ∑ j ∈ range (2 ^ k), ∑ l ∈ range (2 ^ k),
          ((hEntry k i j : Int) : α) * ((hEntry k j l : Int) : α) * x[l]?.getD 0 := by
        rw [hmul_getD _ hi]
        refine sum_congr rfl fun j hj => ?_
        rw [hmul_getD _ hj, mul_sum]
        simp only [mul_assoc]
    _ = ∑ l ∈ range (2 ^ k), if i = l then (2 : α) ^ k * x[l]?.getD 0 else 0 := by
        rw [sum_comm]
        refine sum_congr rfl fun l hl => ?_
        rw [← sum_mul, hEntry_orth_cast (mem_range.1 hi) (mem_range.1 hl), ite_mul, zero_mul]
    _ = (x.map fun v => (2 : α) ^ k * v)[i]?.getD 0 := by
        rw [sum_ite_eq, if_pos hi, Vec.getD_map _ (mul_zero _)]

theorem hmul_adjoint (k : Nat) (u w : List α) :
    ∑ i ∈ range (2 ^ k), (hmul k u)[i]?.getD 0 * w[i]?.getD 0
      = ∑ i ∈ range (2 ^ k), u[i]?.getD 0 * (hmul k w)[i]?.getD 0 := by
  -- both sides are `Σ_i Σ_j h(i,j) · u[j] · w[i]`, `H` being symmetric
  simp +contextual only [hmul_getD, sum_mul, mul_sum]
  rw [sum_comm]
  refine sum_congr rfl fun j _ => sum_congr rfl fun i _ => ?_
  rw [hEntry_comm k i j, mul_assoc, mul_left_comm]

/-- `H_{2^(k+s)} = H_{2^k} ⊗ H_{2^s}` as a product: on the `2^k × 2^s` array, one einsum with `H_{2^k}`
along axis 0, then `H_{2^s}` on every row. -/
theorem hmul_kron (k s : Nat) (x : List α) :
    hmul (k + s) x = ((List.range (2 ^ k)).map fun m =>
      hmul s ((List.range (2 ^ s)).map fun u =>
        ∑ a ∈ range (2 ^ k), x[a * 2 ^ s + u]?.getD 0 * ((hEntry k a m : Int) : α))).flatten := by
  rw [hmul_def, pow_add, List.map_congr_left fun m _ => hmul_def s _, flatten_range_map]
  refine List.map_congr_left fun i _ => ?_
  -- `Σ_a Σ_u h(i, a·2^s+u) · x[a·2^s+u] = Σ_u h(i % 2^s, u) · Σ_a x[a·2^s+u] · h(a, i / 2^s)`
  rw [sum_range_mul, sum_comm]
  refine sum_congr rfl fun u hu => ?_
  have hu := mem_range.1 hu
  rw [Vec.getD_range_map _ hu, mul_sum]
  refine sum_congr rfl fun a _ => ?_
  rw [hEntry_digit hu, hEntry_comm k a, Int.cast_mul]
  ring

theorem applyAxes_eq (ks : List Nat) (x : List α) (hx : x.length = 2 ^ ks.sum) :
    applyAxes (ks.map (2 ^ ·)) x = hmul ks.sum x := by
  induction ks generalizing x with
  | nil =>
    -- `x` has length `2 ^ 0`
    match x, hx with
    | [a], _ =>
      simp only [List.sum_nil, hmul_def, Nat.pow_zero, List.range_one, List.map_singleton,
        sum_range_one, hEntry, Int.cast_one, one_mul]
      rfl
  | cons k ks ih =>
    simp only [List.map_cons, applyAxes, prod_map_pow, Nat.log2_two_pow,
      Array.getD_eq_getD_getElem?, List.getElem?_toArray, sumTo_eq_sum]
    rw [List.sum_cons, hmul_kron]
    congr 2
    funext m
    exact ih _ (by rw [List.length_map, List.length_range])

end matrix

/-- exponents of the axis sizes in append order: `k / s` full blocks, then the remainder -/
def expsOf (k s : Nat) : List Nat := List.replicate (k / s) s ++ (if k % s = 0 then [] else [k % s])

theorem expsOf_lt {k s : Nat} (h : k < s) : expsOf k s = if k = 0 then [] else [k] := by
  rw [expsOf, Nat.div_eq_of_lt h, Nat.mod_eq_of_lt h, List.replicate_zero, List.nil_append]

theorem expsOf_step {k s : Nat} (hs : 1 ≤ s) (hk : s ≤ k) : expsOf k s = s :: expsOf (k - s) s := by
  rw [expsOf, expsOf, Nat.div_eq_sub_div hs hk, Nat.mod_eq_sub_mod hk, List.replicate_succ,
    List.cons_append]

theorem expsOf_sum (k s : Nat) : (expsOf k s).sum = k := by
  rw [expsOf, List.sum_append, List.sum_replicate_nat, apply_ite List.sum, List.sum_nil,
    List.sum_singleton, ite_eq_right_iff.2 Eq.symm, Nat.div_add_mod']

theorem expsOf_mem {k s e : Nat} (hs : 1 ≤ s) (he : e ∈ expsOf k s) : 1 ≤ e ∧ e ≤ s := by
  rcases List.mem_append.1 he with he | he
  · obtain rfl := List.eq_of_mem_replicate he
    exact ⟨hs, le_rfl⟩
  · split at he
    · cases he
    · obtain rfl := List.mem_singleton.1 he
      exact ⟨Nat.pos_of_ne_zero ‹_›, (Nat.mod_lt k hs).le⟩

theorem expsOf_length (k : Nat) {s : Nat} (hs : 1 ≤ s) : (expsOf k s).length = (k + s - 1) / s := by
  obtain ⟨t, rfl⟩ := Nat.exists_eq_add_one.2 hs
  have hr : t + 1 ≤ k % (t + 1) + t ↔ k % (t + 1) ≠ 0 := by
    rw [Nat.add_comm t, Nat.add_le_add_iff_right, Nat.one_le_iff_ne_zero]
  -- `(k+t)/(t+1) = k/(t+1) + [t+1 ≤ k%(t+1) + t]`
  rw [expsOf, List.length_append, List.length_replicate, Nat.add_succ_sub_one, Nat.add_div hs,
    Nat.div_eq_of_lt t.lt_succ_self, Nat.mod_eq_of_lt t.lt_succ_self, Nat.add_zero,
    if_congr hr rfl rfl, ite_not, apply_ite List.length]
  rfl

theorem shapeLoop_le_one (small fuel : Nat) {n : Nat} (h : n ≤ 1) : shapeLoop small fuel n = [] := by
  cases fuel with
  | zero => rfl
  | succ f => rw [shapeLoop, if_neg (Nat.not_lt.2 h)]

theorem shapeLoop_pow {s : Nat} (hs : 1 ≤ s) : ∀ fuel k, k ≤ fuel →
    shapeLoop (2 ^ s) fuel (2 ^ k) = (expsOf k s).map (2 ^ ·) := by
  intro fuel
  induction fuel with
  | zero =>
    intro k hk
    rw [Nat.le_zero.1 hk, expsOf_lt hs]
    rfl
  | succ fuel ih =>
    intro k hk
    rcases Nat.eq_zero_or_pos k with rfl | hk0
    · rw [expsOf_lt hs, shapeLoop_le_one _ _ (Nat.pow_zero 2).le]
      rfl
    rw [shapeLoop, if_pos (Nat.one_lt_two_pow hk0.ne')]
    rcases Nat.lt_or_ge k s with hks | hsk
    · have hpow := Nat.pow_lt_pow_right Nat.one_lt_two hks
      rw [Nat.min_eq_left hpow.le, expsOf_lt hks, if_neg hk0.ne',
        shapeLoop_le_one _ _ ((Nat.div_eq_of_lt hpow).le.trans (Nat.zero_le 1))]
      rfl
    · rw [Nat.min_eq_right (Nat.pow_le_pow_right Nat.two_pos hsk), Nat.pow_div hsk Nat.two_pos,
        ih (k - s) (Nat.sub_le_iff_le_add.2 (hk.trans (Nat.add_le_add_left hs fuel))),
        expsOf_step hs hsk, List.map_cons]

theorem shapeOf_pow (k : Nat) {s : Nat} (hs : 1 ≤ s) :
    shapeOf (2 ^ k) (2 ^ s) = ((expsOf k s).reverse).map (2 ^ ·) := by
  rw [shapeOf, shapeLoop_pow hs (2 ^ k) k Nat.lt_two_pow_self.le, List.map_reverse]

theorem isPow2_pow (e : Nat) : isPow2 (2 ^ e) = true := by
  rw [isPow2, Nat.log2_two_pow, decide_eq_true e.two_pow_pos, beq_self_eq_true]
  rfl

/-- **Shape schedule.** For `n = 2^k` and block size `2^s`, `s ≥ 1`, the reshape schedule
multiplies to `n`, every axis is a power of two between `2` and the block size, and there are
`⌈k/s⌉` axes. -/
theorem C18_shape (k s : Nat) (hs : 1 ≤ s) :
    (shapeOf (2 ^ k) (2 ^ s)).prod = 2 ^ k ∧
    (∀ d ∈ shapeOf (2 ^ k) (2 ^ s), ∃ e, 1 ≤ e ∧ e ≤ s ∧ d = 2 ^ e) ∧
    (shapeOf (2 ^ k) (2 ^ s)).length = (k + s - 1) / s := by
  rw [shapeOf_pow k hs, prod_map_pow, List.sum_reverse, expsOf_sum, List.length_map,
    List.length_reverse, expsOf_length k hs]
  refine ⟨rfl, fun d hd => ?_, rfl⟩
  obtain ⟨e, he, rfl⟩ := List.mem_map.1 hd
  have := expsOf_mem hs (List.mem_reverse.1 he)
  exact ⟨e, this.1, this.2, rfl⟩

/-- **Kronecker factorisation of the Sylvester matrix.** `H_{2^(k+s)} = H_{2^k} ⊗ H_{2^s}`:
the entry at (i, j) is the product of the entries at the high digits and at the low digits. -/
theorem C18_kron_entry (k s i j : Nat) :
    hEntry (k + s) i j = hEntry k (i / 2 ^ s) (j / 2 ^ s) * hEntry s (i % 2 ^ s) (j % 2 ^ s) :=
  hEntry_split k s i j

section transform
variable {α : Type} [CommRing α]

/-- **Main clause.** For every length `2^k`, every block size `2^s` (`s ≥ 1`) the code accepts
(at most 8 axes, i.e. `⌈k/s⌉ ≤ 8`) and every input vector, the fast transform returns exactly the
product with the Sylvester Hadamard matrix of order `2^k` — independently of the block size. -/
theorem C18_fwht_eq_matrix (k s : Nat) (hs : 1 ≤ s) (hd : (k + s - 1) / s ≤ 8)
    (x : List α) (hx : x.length = 2 ^ k) :
    fwht (2 ^ s) x = .ok (hmul k x) := by
  have hsum : (expsOf k s).reverse.sum = k := by rw [List.sum_reverse, expsOf_sum]
  rw [fwht, if_neg (Nat.not_le.2 (Nat.one_lt_two_pow (Nat.ne_of_gt hs))), hx, shapeOf_pow k hs]
  simp only [List.length_map, List.length_reverse, expsOf_length k hs, prod_map_pow, hsum]
  -- the remaining guards in the code's order: at most 8 axes, product = length, every axis a power of two
  rw [if_neg (Nat.not_le.2 (Nat.succ_lt_succ (Nat.lt_succ_of_le hd))), if_neg (by simp),
    if_neg (by simp [isPow2_pow]), applyAxes_eq _ x (by rw [hsum, hx]), hsum]

/-- entries of `hmul`: row `i` of the Sylvester matrix times `x` -/
theorem C18_hmul_entry (k : Nat) (x : List α) (i : Nat) (hi : i < 2 ^ k) :
    (hmul k x).getD i 0 = sumTo (2 ^ k) fun j => ((hEntry k i j : Int) : α) * x.getD j 0 := by
  rw [sumTo_eq_sum]
  exact hmul_getD x (Finset.mem_range.2 hi)

end transform

section norm
variable {α : Type} [CommRing α]

/-- squared Euclidean norm -/
def sumSq (x : List α) : α := (x.map fun v => v * v).sum

theorem sumSq_eq_sum (x : List α) :
    sumSq x = ∑ i ∈ Finset.range x.length, x[i]?.getD 0 * x[i]?.getD 0 := by
  conv_lhs => rw [sumSq, Vec.eq_range_map x, List.map_map]
  rfl

theorem sumSq_cons (a : α) (x : List α) : sumSq (a :: x) = a * a + sumSq x := by simp [sumSq]

theorem sumSq_smul (c : α) (y : List α) : sumSq (y.map fun v => c * v) = c * c * sumSq y := by
  simp only [sumSq, List.map_map, Function.comp_def, mul_mul_mul_comm c _ c, List.sum_map_mul_left]

/-- Parseval: `⟨Hx, Hx⟩ = ⟨x, HHx⟩ = 2^k ⟨x, x⟩` -/
theorem sumSq_hmul {k : Nat} {x : List α} (hx : x.length = 2 ^ k) :
    sumSq (hmul k x) = (2 : α) ^ k * sumSq x := by
  rw [sumSq_eq_sum, sumSq_eq_sum, hmul_length, hx, hmul_adjoint, hmul_hmul hx, Finset.mul_sum]
  refine Finset.sum_congr rfl fun i _ => ?_
  rw [Vec.getD_map _ (mul_zero _), mul_left_comm]

end norm

theorem ceilLog2_le_iff {n m : Nat} : ceilLog2 n ≤ m ↔ n ≤ 2 ^ m :=
  Ceil.ceilLog2_le_iff (go := ceilLog2Go n) (fun _ => rfl) (fun _ _ => rfl) m

theorem le_two_pow_ceilLog2 (n : Nat) : n ≤ 2 ^ ceilLog2 n := ceilLog2_le_iff.1 le_rfl

theorem ceilLog2_pow (k : Nat) : ceilLog2 (2 ^ k) = k :=
  Nat.le_antisymm (ceilLog2_le_iff.2 le_rfl)
    ((Nat.pow_le_pow_iff_right Nat.one_lt_two).1 (le_two_pow_ceilLog2 _))

section rotation
variable {α : Type} [CommRing α]

/-- a Rademacher vector: entries `±1` -/
def IsSigns (signs : List Int) : Prop := ∀ s ∈ signs, s = 1 ∨ s = -1

instance (signs : List Int) : Decidable (IsSigns signs) :=
  inferInstanceAs (Decidable (∀ s ∈ signs, s = 1 ∨ s = -1))

theorem sign_cast_mul_self {s : Int} (h : s = 1 ∨ s = -1) : (s : α) * (s : α) = 1 := by
  rw [← Int.cast_mul, ← Int.cast_one]
  rcases h with rfl | rfl <;> rfl

/-- `D·p`, the flip of `rotU` and `invRotU`; `zipWith` cuts `p` to the signs -/
def flipSigns (p : List α) (signs : List Int) : List α :=
  List.zipWith (fun v (s : Int) => v * (s : α)) p signs

theorem flipSigns_cons (a : α) (p : List α) (s : Int) (ss : List Int) :
    flipSigns (a :: p) (s :: ss) = a * (s : α) :: flipSigns p ss := rfl

theorem sumSq_flipSigns : ∀ (p : List α) (signs : List Int), IsSigns signs →
    sumSq (flipSigns p signs) = sumSq (p.take signs.length)
  | [], _, _ => by
    rw [List.take_nil]
    rfl
  | _ :: _, [], _ => rfl
  | a :: p, s :: ss, hs => by
    have ⟨h1, h2⟩ := List.forall_mem_cons.1 hs
    simp only [flipSigns_cons, sumSq_cons, sumSq_flipSigns p ss h2, mul_mul_mul_comm _ (s : α),
      sign_cast_mul_self h1, mul_one, List.length_cons, List.take_succ_cons]

theorem flipSigns_flipSigns : ∀ (p : List α) (signs : List Int), IsSigns signs →
    flipSigns (flipSigns p signs) signs = p.take signs.length
  | [], _, _ => by
    rw [List.take_nil]
    rfl
  | _ :: _, [], _ => rfl
  | a :: p, s :: ss, hs => by
    have ⟨h1, h2⟩ := List.forall_mem_cons.1 hs
    simp only [flipSigns_cons, flipSigns_flipSigns p ss h2, mul_assoc, sign_cast_mul_self h1,
      mul_one, List.length_cons, List.take_succ_cons]

theorem flipSigns_smul (c : α) (t : List α) (signs : List Int) :
    flipSigns (t.map fun v => c * v) signs = (flipSigns t signs).map fun v => c * v := by
  unfold flipSigns
  rw [List.zipWith_map_left, List.map_zipWith]
  simp only [mul_assoc]

theorem sum_replicate_zero (n : Nat) : (List.replicate n (0 : α)).sum = 0 := by
  rw [List.sum_replicate, nsmul_zero]

theorem sumSq_pad (d : Nat) (x : List α) : sumSq (padTo d x) = sumSq x := by
  simp only [sumSq, padTo, List.map_append, List.sum_append, List.map_replicate, mul_zero,
    sum_replicate_zero, add_zero]

theorem length_padTo {d : Nat} {x : List α} (h : x.length ≤ d) : (padTo d x).length = d := by
  rw [padTo, List.length_append, List.length_replicate, Nat.add_sub_cancel' h]

theorem length_flipSigns_padTo {d : Nat} {x : List α} {signs : List Int} (h : x.length ≤ d)
    (hl : signs.length = d) :
    (flipSigns (padTo d x) signs).length = d := by
  rw [flipSigns, List.length_zipWith, length_padTo h, hl, Nat.min_self]

theorem fwht_default {k : Nat} (hk : k ≤ 56) {x : List α} (hx : x.length = 2 ^ k) :
    fwht defaultSmall x = .ok (hmul k x) :=
  C18_fwht_eq_matrix k 7 (by decide)
    (Nat.div_le_div_right (Nat.sub_le_sub_right (Nat.add_le_add_right hk 7) 1)) x hx

theorem rotU_eq {signs : List Int} {x : List α} (h1 : 1 ≤ x.length) (h56 : x.length ≤ 2 ^ 56)
    (hl : signs.length = 2 ^ ceilLog2 x.length) :
    rotU signs x
      = .ok (hmul (ceilLog2 x.length) (flipSigns (padTo (2 ^ ceilLog2 x.length) x) signs)) := by
  simp only [rotU, if_neg (Nat.ne_of_gt h1)]
  exact fwht_default (ceilLog2_le_iff.2 h56) (length_flipSigns_padTo (le_two_pow_ceilLog2 _) hl)

theorem invRotU_eq (signs : List Int) {k : Nat} (hk : k ≤ 56) {y : List α} (hy : y.length = 2 ^ k)
    (shape : List Nat) :
    invRotU signs y shape = .ok ((flipSigns (hmul k y) signs).take shape.prod) := by
  simp only [invRotU, fwht_default hk hy]
  rfl

/-- `C18_diag_recover` for any input -/
theorem hmul_rotU {signs : List Int} {x : List α} (h1 : 1 ≤ x.length) (h56 : x.length ≤ 2 ^ 56)
    (hl : signs.length = 2 ^ ceilLog2 x.length) :
    ∃ y, rotU signs x = .ok y ∧
      hmul (ceilLog2 x.length) y =
        (flipSigns (padTo (2 ^ ceilLog2 x.length) x) signs).map
          fun v => (2 : α) ^ ceilLog2 x.length * v :=
  ⟨_, rotU_eq h1 h56 hl, hmul_hmul (length_flipSigns_padTo (le_two_pow_ceilLog2 _) hl)⟩

theorem rotU_spec {signs : List Int} {x : List α} {shape : List Nat}
    (hshape : shape.prod = x.length) (h1 : 1 ≤ x.length)
    (h56 : x.length ≤ 2 ^ 56) (hl : signs.length = 2 ^ ceilLog2 x.length) (hs : IsSigns signs) :
    ∃ y, rotU signs x = .ok y ∧ y.length = 2 ^ ceilLog2 x.length ∧
      sumSq y = (2 : α) ^ ceilLog2 x.length * sumSq x ∧
      invRotU signs y shape = .ok (x.map fun v => (2 : α) ^ ceilLog2 x.length * v) := by
  have hle := le_two_pow_ceilLog2 x.length
  have hw := length_flipSigns_padTo hle hl
  have ht : (padTo (2 ^ ceilLog2 x.length) x).take signs.length = padTo (2 ^ ceilLog2 x.length) x :=
    List.take_of_length_le ((length_padTo hle).trans hl.symm).le
  refine ⟨_, rotU_eq h1 h56 hl, hmul_length _ _, ?_, ?_⟩
  · rw [sumSq_hmul hw, sumSq_flipSigns _ _ hs, ht, sumSq_pad]
  · rw [invRotU_eq signs (ceilLog2_le_iff.2 h56) (hmul_length _ _), hmul_hmul hw,
      flipSigns_smul, flipSigns_flipSigns _ _ hs, ht, hshape, ← List.map_take, padTo, List.take_left' rfl]

theorem rot_spec {c : α} {signs : List Int} {x : List α} {shape : List Nat}
    (hshape : shape.prod = x.length) (h1 : 1 ≤ x.length)
    (h56 : x.length ≤ 2 ^ 56) (hl : signs.length = 2 ^ ceilLog2 x.length) (hs : IsSigns signs)
    (hc : c * c * (2 : α) ^ ceilLog2 x.length = 1) :
    ∃ y, rot c signs x = .ok y ∧ y.length = 2 ^ ceilLog2 x.length ∧ sumSq y = sumSq x ∧
      invRot c signs y shape = .ok x := by
  obtain ⟨y, e, hlen, hn, hinv⟩ := rotU_spec hshape h1 h56 hl hs
  have hk := ceilLog2_le_iff.2 h56
  have hlen' := (List.length_map fun v => c * v).trans hlen
  refine ⟨y.map fun v => c * v, by simp only [rot, e], hlen', ?_, ?_⟩
  · rw [sumSq_smul, hn, ← mul_assoc, hc, one_mul]
  · rw [invRotU_eq signs hk hlen] at hinv
    simp only [invRot, invRotU_eq signs hk hlen']
    -- both factors `c` move out through `H`, the flip and the crop
    rw [hmul_smul, flipSigns_smul, ← List.map_take, Except.ok.inj hinv]
    simp only [List.map_map, Function.comp_def, ← mul_assoc, hc, one_mul, List.map_id']

/-- **Norm, unnormalised.** The rotation without its factor `1/sqrt d` (`rotU`; `d` the padded
length): `‖H·D·pad x‖² = d·‖x‖²`. -/
theorem C18_norm_unnormalised (signs : List Int) (x : List α) (h1 : 1 ≤ x.length)
    (h56 : x.length ≤ 2 ^ 56) (hl : signs.length = 2 ^ ceilLog2 x.length) (hs : IsSigns signs) :
    ∃ y, rotU signs x = .ok y ∧ y.length = 2 ^ ceilLog2 x.length ∧
      sumSq y = (2 : α) ^ ceilLog2 x.length * sumSq x := by
  obtain ⟨y, e, hlen, hn, _⟩ := rotU_spec List.prod_singleton h1 h56 hl hs
  exact ⟨y, e, hlen, hn⟩

/-- **Inverse, unnormalised.** `invRotU` after `rotU` with the same signs: `D·H·H·D·pad x = d·pad x`,
cropped to the original size. -/
theorem C18_inverse_unnormalised (signs : List Int) (x : List α) (shape : List Nat)
    (hshape : shape.prod = x.length) (h1 : 1 ≤ x.length)
    (h56 : x.length ≤ 2 ^ 56) (hl : signs.length = 2 ^ ceilLog2 x.length) (hs : IsSigns signs) :
    ∃ y, rotU signs x = .ok y ∧
      invRotU signs y shape = .ok (x.map fun v => (2 : α) ^ ceilLog2 x.length * v) := by
  obtain ⟨y, e, _, _, hinv⟩ := rotU_spec hshape h1 h56 hl hs
  exact ⟨y, e, hinv⟩

/-- **Norm.** With `c` standing for `1/sqrt d` (`c·c·d = 1`), the rotation preserves the
squared Euclidean norm, for every input size `≥ 1` (padding to the next power of two included). -/
theorem C18_norm (c : α) (signs : List Int) (x : List α) (h1 : 1 ≤ x.length)
    (h56 : x.length ≤ 2 ^ 56) (hl : signs.length = 2 ^ ceilLog2 x.length) (hs : IsSigns signs)
    (hc : c * c * (2 : α) ^ ceilLog2 x.length = 1) :
    ∃ y, rot c signs x = .ok y ∧ y.length = 2 ^ ceilLog2 x.length ∧ sumSq y = sumSq x := by
  obtain ⟨y, e, hlen, hn, _⟩ := rot_spec List.prod_singleton h1 h56 hl hs hc
  exact ⟨y, e, hlen, hn⟩

/-- **Inverse.** With `c` standing for `1/sqrt d`, the inverse rotation with the same signs
restores the input (flat, C order, `prod shape` entries) exactly, for every input size `≥ 1`. -/
theorem C18_inverse (c : α) (signs : List Int) (x : List α) (shape : List Nat)
    (hshape : shape.prod = x.length) (h1 : 1 ≤ x.length)
    (h56 : x.length ≤ 2 ^ 56) (hl : signs.length = 2 ^ ceilLog2 x.length) (hs : IsSigns signs)
    (hc : c * c * (2 : α) ^ ceilLog2 x.length = 1) :
    ∃ y, rot c signs x = .ok y ∧ invRot c signs y shape = .ok x := by
  obtain ⟨y, e, _, _, hinv⟩ := rot_spec hshape h1 h56 hl hs hc
  exact ⟨y, e, hinv⟩

end rotation

section consequences
variable {α : Type} [CommRing α]

/-- **Linearity.** The transform of a linear combination is the same combination of the transforms. -/
theorem C18_linear (k s : Nat) (hs : 1 ≤ s) (hd : (k + s - 1) / s ≤ 8) (a b : α)
    (x y : List α) (hx : x.length = 2 ^ k) (hy : y.length = 2 ^ k) :
    ∃ fx fy, fwht (2 ^ s) x = .ok fx ∧ fwht (2 ^ s) y = .ok fy ∧
      fwht (2 ^ s) (List.zipWith (fun u v => a * u + b * v) x y)
        = .ok (List.zipWith (fun u v => a * u + b * v) fx fy) := by
  refine ⟨hmul k x, hmul k y, C18_fwht_eq_matrix k s hs hd x hx, C18_fwht_eq_matrix k s hs hd y hy, ?_⟩
  rw [C18_fwht_eq_matrix k s hs hd _ (by rw [List.length_zipWith, hx, hy, Nat.min_self]),
    hmul_linear k a b x y (hx.trans hy.symm)]

/-- **Involution.** Applying the transform twice (with any two valid block sizes) multiplies
by the length: `H·H = 2^k·I`. -/
theorem C18_involution (k s s' : Nat) (hs : 1 ≤ s) (hd : (k + s - 1) / s ≤ 8)
    (hs' : 1 ≤ s') (hd' : (k + s' - 1) / s' ≤ 8) (x : List α) (hx : x.length = 2 ^ k) :
    ∃ fx, fwht (2 ^ s) x = .ok fx ∧ fwht (2 ^ s') fx = .ok (x.map fun v => (2 : α) ^ k * v) := by
  refine ⟨hmul k x, C18_fwht_eq_matrix k s hs hd x hx, ?_⟩
  rw [C18_fwht_eq_matrix k s' hs' hd' _ (hmul_length k x), hmul_hmul hx]

/-- **Row orthogonality.** `Σ_j H[i,j]·H[j,l] = 2^k·δ_{il}`. -/
theorem C18_orthogonal (k i l : Nat) (hi : i < 2 ^ k) (hl : l < 2 ^ k) :
    sumTo (2 ^ k) (fun j => ((hEntry k i j : Int) : α) * ((hEntry k j l : Int) : α))
      = if i = l then (2 : α) ^ k else 0 := by
  rw [sumTo_eq_sum, hEntry_orth_cast hi hl]

/-- **Guards.** The code's explicit rejections: block size `≤ 1`, and more than 8 axes. -/
theorem C18_rejects (x : List α) :
    (∀ small, small ≤ 1 → fwht small x = .error "ValueError") ∧
    (∀ k s, 1 ≤ s → x.length = 2 ^ k → 8 < (k + s - 1) / s → fwht (2 ^ s) x = .error "ValueError") := by
  refine ⟨fun small h => if_pos h, fun k s hs hx h8 => ?_⟩
  rw [fwht, if_neg (Nat.not_le.2 (Nat.one_lt_two_pow (Nat.ne_of_gt hs))), hx]
  exact if_pos (by rw [(C18_shape k s hs).2.2]; exact Nat.succ_le_succ h8)

/-- what the rotation needs of one leaf: recorded shape, size `≥ 1`, signs of the padded length,
`c` a stand-in for `1/sqrt d` -/
def LeafOK (c : α) (signs : List Int) (x : List α) (shape : List Nat) : Prop :=
  shape.prod = x.length ∧ 1 ≤ x.length ∧ x.length ≤ 2 ^ 56 ∧
  signs.length = 2 ^ ceilLog2 x.length ∧ IsSigns signs ∧ c * c * (2 : α) ^ ceilLog2 x.length = 1

def LeavesOK : List α → List (List Int) → List (List α) → List (List Nat) → Prop
  | c :: cs, s :: ss, x :: xs, sh :: shs => LeafOK c s x sh ∧ LeavesOK cs ss xs shs
  | [], [], [], [] => True
  | _, _, _, _ => False

/-- **Trees.** Leaf-wise: with per-leaf sign vectors shared by rotation and inverse, the tree
rotation succeeds, preserves every leaf's norm and the inverse restores every leaf. -/
theorem C18_pytree : ∀ (cs : List α) (ss : List (List Int)) (xs : List (List α)) (shs : List (List Nat)),
    LeavesOK cs ss xs shs →
    ∃ ys, rotTree cs ss xs = .ok ys ∧ invRotTree cs ss ys shs = .ok xs ∧
      ys.map sumSq = xs.map sumSq := by
  intro cs ss xs shs h
  fun_induction LeavesOK cs ss xs shs with
  | case1 c cs s ss x xs sh shs ih =>
    obtain ⟨⟨h1, h2, h3, h4, h5, h6⟩, hrest⟩ := h
    obtain ⟨ys, e1, e2, e3⟩ := ih hrest
    obtain ⟨y, r1, _, r3, r2⟩ := rot_spec h1 h2 h3 h4 h5 h6
    refine ⟨y :: ys, ?_, ?_, ?_⟩
    · simp only [rotTree, r1, e1]
    · simp only [invRotTree, r2, e2]
    · rw [List.map_cons, r3, e3, List.map_cons]
  | case2 => exact ⟨[], rfl, rfl, rfl⟩
  | case3 => exact h.elim

end consequences

section distinct
variable {α : Type} [CommRing α]

theorem sign_cast_inj (h2 : (2 : α) ≠ 0) {s t : Int} (hs : s = 1 ∨ s = -1) (ht : t = 1 ∨ t = -1)
    (h : (s : α) = (t : α)) : s = t := by
  have key : ((1 : Int) : α) ≠ ((-1 : Int) : α) := by
    rwa [Int.cast_neg, Int.cast_one, Ne, eq_neg_iff_add_eq_zero, one_add_one_eq_two]
  rcases hs with rfl | rfl <;> rcases ht with rfl | rfl
  · rfl
  · exact absurd h key
  · exact absurd h.symm key
  · rfl

theorem rotU_pow {k : Nat} (hk : k ≤ 56) {signs : List Int} (hl : signs.length = 2 ^ k) {x : List α}
    (hx : x.length = 2 ^ k) :
    rotU signs x = .ok (hmul k (flipSigns x signs)) := by
  have e := rotU_eq (signs := signs) (x := x) (hx ▸ Nat.two_pow_pos k)
    (hx ▸ Nat.pow_le_pow_right Nat.two_pos hk) (by rw [hx, ceilLog2_pow, hl])
  simpa only [hx, ceilLog2_pow, padTo, Nat.sub_self, List.replicate_zero, List.append_nil] using e

/-- row 0 of `H` is all ones, so `H·D·e_j` has `signs[j]` in front -/
theorem hmul_flipSigns_unit {k : Nat} {signs : List Int} (hl : signs.length = 2 ^ k) {j : Nat}
    (hj : j < signs.length) :
    (hmul k (flipSigns ((List.range (2 ^ k)).map fun i => if j = i then (1 : α) else 0)
      signs))[0]?.getD 0 = ((signs[j] : Int) : α) := by
  rw [hmul_getD _ (Finset.mem_range.2 (Nat.two_pow_pos k))]
  trans ∑ i ∈ Finset.range (2 ^ k), if j = i then ((signs[i]?.getD 0 : Int) : α) else 0
  · refine Finset.sum_congr rfl fun i hi => ?_
    rw [hEntry_zero_row, flipSigns,
      Vec.getD_zipWith _ (a := (0 : α)) (b := (0 : Int)) (by rw [Int.cast_zero, mul_zero]) _ signs
        (by rw [List.length_map, List.length_range, hl]),
      Vec.getD_range_map _ (Finset.mem_range.1 hi), Int.cast_one, one_mul, ite_mul, one_mul,
      zero_mul]
  · rw [Finset.sum_ite_eq, if_pos (Finset.mem_range.2 (hl ▸ hj)), List.getElem?_eq_getElem hj,
      Option.getD_some]

/-- **Different signs, different rotation.** Two different Rademacher vectors of the padded
length give rotations that differ on some input (in any ring where `2 ≠ 0`). Together with the
(trusted, monitored) fact that different keys draw different sign vectors this is the
"different keys give different rotations" clause. -/
theorem C18_signs_distinct (h2 : (2 : α) ≠ 0) (k : Nat) (hk : k ≤ 56) (signs signs' : List Int)
    (hl : signs.length = 2 ^ k) (hl' : signs'.length = 2 ^ k) (hs : IsSigns signs) (hs' : IsSigns signs')
    (hne : signs ≠ signs') :
    ∃ x : List α, x.length = 2 ^ k ∧ rotU signs x ≠ rotU signs' x := by
  -- if no unit vector tells them apart, the signs agree at every coordinate
  by_contra hall
  push Not at hall
  refine hne (List.ext_getElem (hl.trans hl'.symm) fun j h h' => ?_)
  have hx : ((List.range (2 ^ k)).map fun i => if j = i then (1 : α) else 0).length = 2 ^ k := by
    rw [List.length_map, List.length_range]
  have heq := hall _ hx
  rw [rotU_pow hk hl hx, rotU_pow hk hl' hx] at heq
  refine sign_cast_inj h2 (hs _ (List.getElem_mem h)) (hs' _ (List.getElem_mem h')) ?_
  rw [← hmul_flipSigns_unit hl h, ← hmul_flipSigns_unit hl' h', Except.ok.inj heq]

end distinct

theorem inv_sqrt_sq {d : ℝ} (hd : 0 < d) : 1 / √d * (1 / √d) * d = 1 := by
  rw [one_div_mul_one_div, Real.mul_self_sqrt hd.le, one_div_mul_cancel hd.ne']

/-- **Over the reals, with the code's actual factor `1/sqrt d`.** For every input size `≥ 1` and
Rademacher signs of the padded length, `structured_rotation` succeeds and preserves `Σ xᵢ²`, and
`inverse_structured_rotation` with the same signs returns the input. -/
theorem C18_real_rotation (signs : List Int) (x : List ℝ) (shape : List Nat)
    (hshape : shape.prod = x.length) (h1 : 1 ≤ x.length) (h56 : x.length ≤ 2 ^ 56)
    (hl : signs.length = 2 ^ ceilLog2 x.length) (hs : IsSigns signs) :
    ∃ y, rot (1 / Real.sqrt ((2 : ℝ) ^ ceilLog2 x.length)) signs x = .ok y ∧
      sumSq y = sumSq x ∧
      invRot (1 / Real.sqrt ((2 : ℝ) ^ ceilLog2 x.length)) signs y shape = .ok x := by
  obtain ⟨y, r1, _, r3, r2⟩ := rot_spec hshape h1 h56 hl hs (inv_sqrt_sq (by positivity))
  exact ⟨y, r1, r3, r2⟩

section recover
variable {α : Type} [CommRing α]

/-- **The diagonal is observable.** Whatever ±1 (indeed: whatever integer) vector `signs` a key
stands for, it can be read off the rotation of the all-ones input: `H·(H·D·pad 1) = d·(D·pad 1)`, i.e. entry
`i < n` of `H·rotU signs ones / d` is `signs[i]` and the padding entries are `0`. This is what the harness uses to
recover `D` from the implementation instead of predicting the random stream. -/
theorem C18_diag_recover (signs : List Int) (n : Nat) (h1 : 1 ≤ n) (h56 : n ≤ 2 ^ 56)
    (hl : signs.length = 2 ^ ceilLog2 n) :
    ∃ y, rotU signs (List.replicate n (1 : α)) = .ok y ∧
      hmul (ceilLog2 n) y =
        (List.zipWith (fun v (s : Int) => v * (s : α)) (padTo (2 ^ ceilLog2 n) (List.replicate n (1 : α))) signs).map
          (fun v => (2 : α) ^ ceilLog2 n * v) := by
  have := hmul_rotU (signs := signs) (x := List.replicate n (1 : α))
  rw [List.length_replicate] at this
  exact this h1 h56 hl

end recover

example : shapeOf 32 4 = [2, 4, 4] := by decide
example : shapeOf 1024 128 = [8, 128] := by decide
example : fwht 4 ([0, 1, 2, 3, 4, 5, 6, 7] : List Int) = .ok [28, -4, -8, 0, -16, 0, 0, 0] := by
  decide +kernel
-- block size 2 on length 8: a 3-axis schedule (2·2·2) meeting the hypotheses of the main theorem
example : fwht (2 ^ 1) ([1, 2, 3, 4, 5, 6, 7, 8] : List ℚ) = .ok (hmul 3 [1, 2, 3, 4, 5, 6, 7, 8]) :=
  C18_fwht_eq_matrix 3 1 (by omega) (by decide) _ rfl
example : hmul 2 ([1, 0, 0, 0] : List Int) = [1, 1, 1, 1] ∧ hmul 2 ([0, 0, 0, 1] : List Int) = [1, -1, -1, 1] := by
  decide +kernel
-- at block size 2, `k = 8` meets the 8-axis hypothesis of `C18_fwht_eq_matrix` and `k = 9` that of `C18_rejects`
example : (8 + 1 - 1) / 1 ≤ 8 ∧ 8 < (9 + 1 - 1) / 1 := by decide
-- rotation of a size-3 input (padded to 4) with c = 1/2
example : ∃ y, rot (1/2 : ℚ) [1, -1, -1, 1] [2, 1, 5] = .ok y ∧ sumSq y = sumSq ([2, 1, 5] : List ℚ) ∧
    invRot (1/2 : ℚ) [1, -1, -1, 1] y [3] = .ok [2, 1, 5] := by
  obtain ⟨y, r1, _, r3, r2⟩ := @rot_spec ℚ _ (1/2) [1, -1, -1, 1] [2, 1, 5] [3] rfl (by decide)
    (by decide) (by decide) (by decide) (by decide +kernel)
  exact ⟨y, r1, r3, r2⟩
-- a 0-d leaf (shape `[]`, one entry) satisfies `LeafOK`
example : LeafOK (1 : ℚ) [-1] [7] [] :=
  ⟨rfl, by decide, by decide, by decide, by decide, by decide +kernel⟩
example : rotU [-1] ([7] : List Int) = .ok [-7] ∧ invRotU [-1] ([-7] : List Int) [] = .ok [7] := by
  decide +kernel
example : rotU [1, -1, -1, 1] ([2, 1, 5] : List Int) = .ok [-4, -2, 6, 8] := by decide +kernel
example : rotU [1, 1] ([1, 0] : List Int) ≠ rotU [-1, 1] ([1, 0] : List Int) := by decide +kernel

example : ∃ y, rotU [1, -1, -1, 1] (List.replicate 3 (1 : ℤ)) = .ok y ∧
    hmul 2 y = [4, -4, -4, 0] := by
  obtain ⟨y, h1, h2⟩ := C18_diag_recover (α := ℤ) [1, -1, -1, 1] 3 (by decide) (by decide) (by decide)
  exact ⟨y, h1, h2.trans (by decide)⟩

end FedjaxVerif.Hadamard
