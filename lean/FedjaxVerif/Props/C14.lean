import FedjaxVerif.Lemmas.Blocks
import FedjaxVerif.Lemmas.Stats
import FedjaxVerif.Lemmas.Metrics

/-!
# C14 — every built-in metric equals its definition on its whole domain

`Model/Metrics.lean` is the reference (written from the docstrings).  The theorems below are the
documented identities between those definitions, for all inputs: top-1 accuracy = accuracy, ties
go to the lowest class index, the stable-sort top-k is the rank definition, `k < 1 → 0`,
`k ≥ classes → 1`, confusion-matrix cells/total/trace, per-domain restriction, fully masked
sequences, token weights, per-position statistics sum to the sequence statistic.
-/

-- for the `<;>` chains in `Score.lt_trans` and `Score.lt_trichotomy`
set_option linter.unnecessarySeqFocus false

namespace FedjaxVerif.Metrics
open FedjaxVerif.Stats

namespace Score

theorem lt_irrefl (a : Score) : a.lt a = false := by
  cases a with
  | fin x => exact decide_eq_false (Int.lt_irrefl x)
  | _ => rfl

theorem lt_trans {a b c : Score} (h1 : a.lt b = true) (h2 : b.lt c = true) : a.lt c = true := by
  cases b with
  | ninf => cases a <;> cases h1
  | pinf => cases c <;> cases h2
  | fin y =>
    cases a <;> cases c <;> simp only [lt, decide_eq_true_eq, Bool.false_eq_true] at * <;>
      exact Int.lt_trans h1 h2

theorem lt_asymm {a b : Score} (h : a.lt b = true) : b.lt a = false :=
  Bool.eq_false_iff.mpr fun h' => Bool.false_ne_true ((lt_irrefl a).symm.trans (lt_trans h h'))

theorem lt_trichotomy (a b : Score) : a.lt b = true ∨ a = b ∨ b.lt a = true := by
  cases a <;> cases b <;>
    simp only [lt, decide_eq_true_eq, fin.injEq, reduceCtorEq, or_true, or_false] <;>
    exact Int.lt_trichotomy _ _

end Score

/-- class `i` is considered before class `j`: larger score, or equal score and lower index -/
def before (s : List Score) (i j : Nat) : Prop :=
  (key s j).lt (key s i) = true ∨ (key s i = key s j ∧ i < j)

instance (s : List Score) (i j : Nat) : Decidable (before s i j) := by unfold before; infer_instance

theorem before_irrefl (s : List Score) (i : Nat) : ¬ before s i i := by
  rintro (h | ⟨_, h⟩)
  · rw [Score.lt_irrefl] at h; exact Bool.false_ne_true h
  · exact Nat.lt_irrefl _ h

theorem before_trans {s : List Score} {i j k : Nat} (h1 : before s i j) (h2 : before s j k) :
    before s i k := by
  rcases h1 with h1 | ⟨e1, l1⟩ <;> rcases h2 with h2 | ⟨e2, l2⟩
  · exact Or.inl (Score.lt_trans h2 h1)
  · exact Or.inl (e2 ▸ h1)
  · exact Or.inl (e1 ▸ h2)
  · exact Or.inr ⟨e1.trans e2, Nat.lt_trans l1 l2⟩

theorem before_total (s : List Score) {i j : Nat} (h : i ≠ j) : before s i j ∨ before s j i := by
  rcases Score.lt_trichotomy (key s i) (key s j) with h1 | h1 | h1
  · exact Or.inr (Or.inl h1)
  · rcases Nat.lt_or_gt_of_ne h with h2 | h2
    · exact Or.inl (Or.inr ⟨h1, h2⟩)
    · exact Or.inr (Or.inr ⟨h1.symm, h2⟩)
  · exact Or.inl (Or.inl h1)

theorem before_of_not_lt {s : List Score} {i j : Nat} (hij : i < j)
    (h : (key s i).lt (key s j) ≠ true) : before s i j := by
  refine (before_total s (Nat.ne_of_lt hij)).resolve_right fun hb => ?_
  -- `before s j i` needs a larger score at `j` (excluded by `h`) or `j < i`
  exact hb.elim h fun h' => Nat.lt_asymm hij h'.2

theorem key_of_drop {s : List Score} {i : Nat} {x : Score} {xs : List Score}
    (h : s.drop i = x :: xs) : i < s.length ∧ key s i = x ∧ s.drop (i + 1) = xs := by
  have hx : s[i]? = some x := by rw [← List.head?_drop, h, List.head?_cons]
  refine ⟨(List.getElem?_eq_some_iff.mp hx).1, ?_, ?_⟩
  · rw [key, List.getD_eq_getElem?_getD, hx, Option.getD_some]
  · rw [← List.tail_drop, h, List.tail_cons]

/-- the scan keeps a class that none of the classes seen so far is `before` -/
theorem argmaxGo_least (s : List Score) (xs : List Score) (bi i : Nat) (hd : s.drop i = xs)
    (hbi : bi < i) (hi : i ≤ s.length) (hmin : ∀ p < i, ¬ before s p bi) :
    argmaxGo xs (key s bi) bi i < s.length ∧
    ∀ p < s.length, ¬ before s p (argmaxGo xs (key s bi) bi i) := by
  induction xs generalizing bi i with
  | nil =>
    have hn : s.length ≤ i := List.drop_eq_nil_iff.mp hd
    exact ⟨Nat.lt_of_lt_of_le hbi hi, fun p hp => hmin p (Nat.lt_of_lt_of_le hp hn)⟩
  | cons x xs ih =>
    obtain ⟨hil, rfl, hd'⟩ := key_of_drop hd
    rw [argmaxGo]
    split
    · next hlt =>
      -- class `i` takes over: what is before `i` is before `bi`
      exact ih i (i + 1) hd' (Nat.lt_succ_self i) hil (Nat.forall_lt_succ_right.mpr
        ⟨fun p hp hb => hmin p hp (before_trans hb (Or.inl hlt)), before_irrefl s i⟩)
    · next hlt =>
      exact ih bi (i + 1) hd' (Nat.lt_succ_of_lt hbi) hil (Nat.forall_lt_succ_right.mpr
        ⟨hmin, fun hb => hb.elim hlt fun h => Nat.lt_asymm hbi h.2⟩)

theorem argmaxFirst_least {s : List Score} (hs : s ≠ []) :
    argmaxFirst s < s.length ∧ ∀ p < s.length, ¬ before s p (argmaxFirst s) := by
  obtain ⟨x, xs, rfl⟩ := List.exists_cons_of_ne_nil hs
  exact argmaxGo_least (x :: xs) xs 0 1 rfl Nat.one_pos (Nat.succ_pos _) fun p hp hb =>
    before_irrefl _ 0 (Nat.lt_one_iff.mp hp ▸ hb)

/-- **Ties are broken toward the lowest class index**: `argmaxFirst` is a valid class, no class
has a strictly larger score, and every class before it has a strictly smaller score. -/
theorem C14_tie_lowest_index (s : List Score) (hs : s ≠ []) :
    argmaxFirst s < s.length ∧
    (∀ p < s.length, (key s (argmaxFirst s)).lt (key s p) = false) ∧
    (∀ p < argmaxFirst s, (key s p).lt (key s (argmaxFirst s)) = true) := by
  obtain ⟨h1, h2⟩ := argmaxFirst_least hs
  refine ⟨h1, fun p hp => Bool.eq_false_iff.mpr fun h => h2 p hp (Or.inl h), fun p hp => ?_⟩
  exact Decidable.byContradiction fun hn => h2 p (Nat.lt_trans hp h1) (before_of_not_lt hp hn)

theorem argmaxFirst_unique {s : List Score} (hs : s ≠ []) (j : Nat) :
    (j < s.length ∧ ∀ i < s.length, ¬ before s i j) ↔ j = argmaxFirst s := by
  obtain ⟨h1, h2⟩ := argmaxFirst_least hs
  refine ⟨fun ⟨hj, hnb⟩ => Decidable.byContradiction fun hne => ?_, fun hj => hj ▸ ⟨h1, h2⟩⟩
  exact (before_total s hne).elim (h2 j hj) (hnb _ h1)

theorem insertDesc_perm (s : List Score) (i : Nat) (L : List Nat) : (insertDesc s i L).Perm (i :: L) := by
  induction L with
  | nil => exact .refl _
  | cons j js ih =>
    rw [insertDesc]
    split
    · exact (ih.cons j).trans (.swap i j js)
    · exact .refl _

theorem insertDesc_sorted {s : List Score} {i : Nat} {L : List Nat} (hgt : ∀ j ∈ L, i < j)
    (hp : L.Pairwise (before s)) : (insertDesc s i L).Pairwise (before s) := by
  induction L with
  | nil => exact List.pairwise_singleton _ _
  | cons j js ih =>
    obtain ⟨hij, hgt'⟩ := List.forall_mem_cons.mp hgt
    obtain ⟨hjs, hpj⟩ := List.pairwise_cons.mp hp
    rw [insertDesc]
    split
    · next hlt =>
      have hj : ∀ y ∈ i :: js, before s j y := List.forall_mem_cons.mpr ⟨Or.inl hlt, hjs⟩
      exact List.pairwise_cons.mpr
        ⟨fun y hy => hj y ((insertDesc_perm s i js).mem_iff.mp hy), ih hgt' hpj⟩
    · next hlt =>
      have hbij := before_of_not_lt hij hlt
      exact List.pairwise_cons.mpr
        ⟨List.forall_mem_cons.mpr ⟨hbij, fun y hy => before_trans hbij (hjs y hy)⟩, hp⟩

theorem foldr_insertDesc_spec (s : List Score) {l : List Nat} (hl : l.Pairwise (· < ·)) :
    (l.foldr (insertDesc s) []).Pairwise (before s) ∧ (l.foldr (insertDesc s) []).Perm l := by
  induction l with
  | nil => exact ⟨.nil, .refl _⟩
  | cons i l ih =>
    obtain ⟨hil, hl⟩ := List.pairwise_cons.mp hl
    obtain ⟨ih1, ih2⟩ := ih hl
    exact ⟨insertDesc_sorted (fun j hj => hil j (ih2.mem_iff.mp hj)) ih1,
      (insertDesc_perm s i _).trans (ih2.cons i)⟩

theorem argsortDesc_sorted (s : List Score) : (argsortDesc s).Pairwise (before s) :=
  (foldr_insertDesc_spec s List.pairwise_lt_range).1

theorem argsortDesc_perm (s : List Score) : (argsortDesc s).Perm (List.range s.length) :=
  (foldr_insertDesc_spec s List.pairwise_lt_range).2

/-- in a list sorted by an asymmetric relation the first `k` entries are those with fewer than `k`
predecessors -/
theorem mem_take_sorted {α : Type} {r : α → α → Prop} [DecidableRel r] (hr : ∀ a b, r a b → ¬ r b a)
    {L : List α} (hp : L.Pairwise r) (k : Nat) (x : α) :
    x ∈ L.take k ↔ x ∈ L ∧ L.countP (fun i => decide (r i x)) < k := by
  induction L generalizing k with
  | nil =>
    rw [List.take_nil]
    exact iff_of_false List.not_mem_nil fun h => List.not_mem_nil h.1
  | cons a L ih =>
    obtain ⟨ha, hL⟩ := List.pairwise_cons.mp hp
    cases k with
    | zero => exact iff_of_false List.not_mem_nil fun h => Nat.not_lt_zero _ h.2
    | succ k =>
      rw [List.take_succ_cons, List.countP_cons, List.mem_cons, List.mem_cons]
      by_cases hxa : x = a
      · -- the head: nothing comes before it
        subst hxa
        rw [List.countP_eq_zero.mpr fun y hy h => hr x y (ha y hy) (of_decide_eq_true h),
          if_neg fun h => hr x x (of_decide_eq_true h) (of_decide_eq_true h)]
        exact iff_of_true (Or.inl rfl) ⟨Or.inl rfl, Nat.succ_pos k⟩
      · rw [or_iff_right hxa, or_iff_right hxa, ih hL k]
        exact and_congr_right fun hxL => by
          rw [if_pos (decide_eq_true (ha x hxL)), Nat.succ_lt_succ_iff]

theorem rank_eq_countP (s : List Score) (j : Nat) :
    rank s j = (List.range s.length).countP (fun i => decide (before s i j)) := by
  rw [rank, List.countP_eq_length_filter]
  refine congrArg List.length (List.filter_congr fun i _ => ?_)
  rw [Bool.eq_iff_iff]
  simp only [Bool.or_eq_true, Bool.and_eq_true, beq_iff_eq, decide_eq_true_eq]
  exact Iff.rfl

/-- **The stable argsort the code uses is the documented rank**: class `t` is among the first
`k` classes iff it is a class and fewer than `k` classes are considered before it. -/
theorem C14_topk_rank (s : List Score) (k : Int) (t : Nat) :
    t ∈ topK k s ↔ t < s.length ∧ rank s t < k.toNat := by
  rw [topK, mem_take_sorted (fun i _ h1 h2 => before_irrefl s i (before_trans h1 h2))
    (argsortDesc_sorted s), rank_eq_countP, (argsortDesc_perm s).mem_iff,
    (argsortDesc_perm s).countP_eq, List.mem_range]

/-- **`k < 1` gives 0, `k ≥ num_classes` gives 1** (for targets in range). -/
theorem C14_topk_bounds (s : List Score) (k : Int) (t : Int) :
    (k < 1 → correctTopK k t s = 0) ∧
    (s.length ≤ k → 0 ≤ t → t < s.length → correctTopK k t s = 1) := by
  constructor
  · intro hk
    rw [correctTopK, inTopK, topK, Int.toNat_eq_zero.mpr (Int.le_of_lt_add_one hk)]
    rfl
  · intro hk h0 ht
    obtain ⟨n, rfl⟩ := Int.eq_ofNat_of_zero_le h0
    have hlen : (argsortDesc s).length ≤ k.toNat := by
      rw [(argsortDesc_perm s).length_eq, List.length_range]
      exact Int.toNat_le_toNat hk
    have hmem : n ∈ argsortDesc s :=
      (argsortDesc_perm s).mem_iff.mpr (List.mem_range.mpr (Int.ofNat_lt.mp ht))
    have hin : inTopK k s n = true := by
      rw [inTopK, topK, List.take_of_length_le hlen]
      exact List.any_eq_true.mpr ⟨n, hmem, decide_eq_true rfl⟩
    rw [correctTopK, hin]
    rfl

theorem mem_topK_one {s : List Score} (hs : s ≠ []) (j : Nat) : j ∈ topK 1 s ↔ j = argmaxFirst s := by
  rw [C14_topk_rank, ← argmaxFirst_unique hs j, rank_eq_countP]
  refine and_congr_right fun _ => Nat.lt_one_iff.trans (List.countP_eq_zero.trans ?_)
  simp only [List.mem_range, decide_eq_true_eq]

/-- top-1 accuracy equals accuracy, per score vector -/
theorem correctTopK_one {s : List Score} (hs : s ≠ []) (t : Int) :
    correctTopK 1 t s = correctTop1 t s := by
  rw [correctTopK, correctTop1, inTopK]
  refine congrArg ind ?_
  rw [Bool.eq_iff_iff, List.any_eq_true]
  simp only [mem_topK_one hs, exists_eq_left]

/-- **Top-1 accuracy equals accuracy**: `TopKAccuracy(k=1)` = `Accuracy`, and
`SequenceTokenTopKAccuracy(k=1, …)` = `SequenceTokenAccuracy(…)` (same masked values, logits mask
and `per_position`), whenever every position has at least one class. -/
theorem C14_top1_eq_accuracy (e : Ex) :
    (e.scores0 ≠ [] → (MeanMetric.topK 1).eval e = MeanMetric.accuracy.eval e) ∧
    (∀ masked lm pp, (∀ sc ∈ e.scores, applyMask sc lm ≠ []) →
      (MeanMetric.seqTokenTopK 1 masked lm pp).eval e = (MeanMetric.seqTokenAcc masked lm pp).eval e) := by
  refine ⟨fun h => ?_, fun masked lm pp h => ?_⟩
  · exact congrArg (fun x => [MeanStat.new x 1])
      (correctTopK_one (fun hm => h (List.map_eq_nil_iff.mp hm)) _)
  · refine congrArg (tokenStat pp · (weights masked e.targets)) (List.ext_getElem ?_ fun i h1 h2 => ?_)
    · rw [List.length_zipWith, List.length_zipWith]
    · rw [List.getElem_zipWith, List.getElem_zipWith]
      exact correctTopK_one (h _ (List.getElem_mem _)) _

/-- generic form: for any lawful statistic, block `d` of the reduced per-domain statistic is the
reduced base statistic of the examples of domain `d` -/
theorem perDomain_reduce {σ : Type} {o : StatOps σ} {V : σ → Prop} (h : Lawful o V)
    {f : Ex → List σ} {m D : Nat} {exs : List Ex} (hf : ∀ e ∈ exs, VecValid m V (f e))
    {d i : Nat} (hd : d < D) (hi : i < m) :
    ((vecOps (D * m) o).reduce (exs.map fun e => perDomainV o.zero D e.domain (f e))).getD (d * m + i) o.zero
      = ((vecOps m o).reduce ((exs.filter fun e => (d : Int) = e.domain).map f)).getD i o.zero := by
  have hr := h.reduce_map_ite (fun e => decide ((d : Int) = e.domain)) (fun e => (f e).getD i o.zero) exs
    fun e he _ => h.getD_valid (hf e he).2 i
  rw [getD_vec_reduce o _ (Blocks.index_lt hd hi), getD_vec_reduce o _ hi, List.map_map, List.map_map]
  refine .trans (congrArg o.reduce (List.map_congr_left fun e he => ?_)) hr
  refine (getD_perDomainV o.zero e.domain (hf e he).1 hd hi).trans ?_
  simp only [decide_eq_true_eq]

/-- **Per-domain statistics restricted to a domain equal the base metric on that domain's
examples** (mean-valued bases, incl. per-position ones; any list of examples, i.e. after
`evaluate_batch`/`evaluate_model`). -/
theorem C14_per_domain_mean (base : MeanMetric) (D len : Nat) (exs : List Ex)
    (hshape : ∀ e ∈ exs, e.WellShaped len) (d i : Nat) (hd : d < D) (hi : i < base.size len) :
    ((vecOps ((MeanMetric.perDomain base D).size len) meanOps).reduce
        (exs.map (MeanMetric.perDomain base D).eval)).getD (d * base.size len + i) MeanStat.zero
      = ((vecOps (base.size len) meanOps).reduce
          ((exs.filter fun e => (d : Int) = e.domain).map base.eval)).getD i MeanStat.zero :=
  perDomain_reduce meanLawful (fun e he => base.eval_vecValid len e (hshape e he)) hd hi

/-- the same for sum-valued bases (counts, confusion matrix) -/
theorem C14_per_domain_sum (base : SumMetric) (D : Nat) (exs : List Ex)
    (d i : Nat) (hd : d < D) (hi : i < base.size) :
    ((vecOps (SumMetric.perDomain base D).size sumOps).reduce
        (exs.map (SumMetric.perDomain base D).eval)).getD (d * base.size + i) SumStat.zero
      = ((vecOps base.size sumOps).reduce
          ((exs.filter fun e => (d : Int) = e.domain).map base.eval)).getD i SumStat.zero :=
  perDomain_reduce sumLawful (fun e _ => base.eval_vecValid e) hd hi

/-- single example: block `d` is the base statistic if `d` is the example's domain, else zero -/
theorem C14_per_domain_example (base : MeanMetric) (D : Nat) (e : Ex) (d i : Nat)
    (hd : d < D) (hi : i < (base.eval e).length) :
    ((MeanMetric.perDomain base D).eval e).getD (d * (base.eval e).length + i) MeanStat.zero
      = if (d : Int) = e.domain then (base.eval e).getD i MeanStat.zero else MeanStat.zero :=
  getD_perDomainV MeanStat.zero e.domain rfl hd hi

/-- the class predicted for an example -/
def predicted (e : Ex) : Nat := argmaxFirst (e.scores0.map Score.fin)

/-- number of examples with target `r` predicted as `c` -/
def cell (exs : List Ex) (r c : Nat) : Nat :=
  exs.countP fun e => (r : Int) == e.target && c == predicted e

/-- number of correctly predicted examples -/
def numCorrect (exs : List Ex) : Nat := exs.countP fun e => (predicted e : Int) == e.target

theorem sum_ind_countP {α : Type} (l : List α) (p : α → Bool) :
    (l.map fun e => ind (p e)).sum = (l.countP p : Rat) := by
  induction l with
  | nil => rfl
  | cons a l ih =>
    rw [List.map_cons, List.sum_cons, ih, List.countP_cons]
    cases p a
    · exact Rat.zero_add _
    · rw [if_pos rfl, Rat.natCast_add, Rat.add_comm]
      rfl

theorem getD_confusion {c : Nat} (e : Ex) {r col : Nat} (hr : r < c) (hc : col < c) :
    ((SumMetric.confusion c).eval e).getD (r * c + col) SumStat.zero
      = SumStat.new (ind ((r : Int) == e.target && col == predicted e)) := by
  rw [SumMetric.eval,
    Blocks.getD_flatMap_range _ (fun _ => by rw [List.length_map, List.length_range]) _ hr hc,
    List.getD_eq_getElem?_getD, List.getElem?_map, List.getElem?_range hc]
  rfl

/-- **One count per example at (target, predicted)**: cell `(r, c)` of the summed matrix is the
number of examples with target `r` whose prediction (argmax, ties → lowest index) is `c`. -/
theorem C14_confusion_cell (c : Nat) (exs : List Ex) (r col : Nat) (hr : r < c) (hc : col < c) :
    ((vecOps (SumMetric.confusion c).size sumOps).reduce
        (exs.map (SumMetric.confusion c).eval)).getD (r * c + col) SumStat.zero
      = ⟨(cell exs r col : Rat)⟩ := by
  refine (getD_vec_reduce sumOps (c * c) (Blocks.index_lt hr hc)).trans ?_
  rw [List.map_map, cell, ← sum_ind_countP]
  refine (congrArg sumOps.reduce (List.map_congr_left fun e _ => getD_confusion e hr hc)).trans ?_
  exact congrArg SumStat.mk (congrArg List.sum List.map_map)

theorem sum_map_add_nat {α : Type} (l : List α) (f g : α → Nat) :
    (l.map fun r => f r + g r).sum = (l.map f).sum + (l.map g).sum := by
  induction l with
  | nil => rfl
  | cons a l ih => rw [List.map_cons, List.sum_cons, ih, List.map_cons, List.sum_cons, List.map_cons,
      List.sum_cons, Nat.add_add_add_comm]

theorem sum_ite_eq_count (l : List Nat) (t : Nat) :
    (l.map fun r => if r = t then 1 else 0).sum = l.count t := by
  induction l with
  | nil => rfl
  | cons a l ih =>
    rw [List.map_cons, List.sum_cons, ih, List.count_cons, Nat.add_comm]
    simp only [beq_iff_eq]

/-- counting class by class: every element is counted at its own class `g e`, if that is below `c` -/
theorem sum_range_countP {α : Type} (q : α → Bool) (g : α → Nat) (c : Nat) (l : List α) :
    ((List.range c).map fun r => l.countP fun e => r == g e && q e).sum
      = l.countP fun e => q e && decide (g e < c) := by
  induction l with
  | nil => simp only [List.countP_nil, List.map_const', List.sum_replicate_nat, Nat.mul_zero]
  | cons a l ih =>
    simp only [List.countP_cons, sum_map_add_nat, ih]
    refine congrArg _ ?_
    cases q a
    · simp only [Bool.and_false, Bool.false_and, Bool.false_eq_true, if_false, List.map_const',
        List.sum_replicate_nat, Nat.mul_zero]
    · simpa only [Bool.and_true, Bool.true_and, beq_iff_eq, decide_eq_true_eq]
        using (sum_ite_eq_count (List.range c) (g a)).trans List.count_range

theorem reduce_new_one {α : Type} (g : α → Rat) (l : List α) :
    MeanStat.reduce (l.map fun e => MeanStat.new (g e) 1) = ⟨(l.map g).sum, l.length⟩ := by
  rw [MeanStat.reduce_eq (List.forall_mem_map.mpr fun _ _ => MeanStat.new_valid _ _)]
  simp only [MeanStat.new_of_pos (w := 1) (by decide), List.map_map, Function.comp_def, MeanStat.mk.injEq, true_and]
  -- a sum of ones: `sum_ind_countP` for the predicate that always holds
  exact (sum_ind_countP l fun _ => true).trans (congrArg Nat.cast (congrFun List.countP_true l))

/-- **Total = number of examples, trace = number of correct predictions**, hence
`trace / total` is the accuracy: the reduced `Accuracy` statistic of the same examples is
`(numCorrect, length)`. -/
theorem C14_confusion_trace (c : Nat) (exs : List Ex)
    (h : ∀ e ∈ exs, 0 ≤ e.target ∧ e.target < c ∧ e.scores0.length = c) :
    ((List.range c).map fun r => ((List.range c).map fun col => cell exs r col).sum).sum = exs.length ∧
    ((List.range c).map fun r => cell exs r r).sum = numCorrect exs ∧
    (vecOps 1 meanOps).reduce (exs.map MeanMetric.accuracy.eval)
      = [⟨(numCorrect exs : Rat), (exs.length : Rat)⟩] := by
  have hpred : ∀ e ∈ exs, predicted e < c := fun e he => by
    obtain ⟨h0, h1, h2⟩ := h e he
    have hlen : (e.scores0.map Score.fin).length = c := (List.length_map _).trans h2
    have hc : 0 < c := Int.natCast_pos.mp (Int.lt_of_le_of_lt h0 h1)
    exact hlen ▸ (argmaxFirst_least (List.ne_nil_of_length_pos (hlen.symm ▸ hc))).1
  -- a row and the diagonal are counted by predicted class, the rows by `target.toNat`: `sum_range_countP`
  have hcell : ∀ r col, cell exs r col
      = exs.countP fun e => col == predicted e && r == e.target.toNat := fun r col =>
    List.countP_congr fun e he => by
      have htgt : r = e.target.toNat ↔ (r : Int) = e.target := by
        rw [← Int.natCast_inj, Int.toNat_of_nonneg (h e he).1]
      rw [Bool.and_comm, Bool.and_eq_true, Bool.and_eq_true, beq_iff_eq, beq_iff_eq, beq_iff_eq, htgt]
  have hdiag : ∀ r, cell exs r r
      = exs.countP fun e => r == predicted e && ((predicted e : Int) == e.target) := fun r =>
    List.countP_congr fun e _ => by
      rw [Bool.and_comm, Bool.and_eq_true, Bool.and_eq_true, beq_iff_eq]
      exact and_congr_right fun hr => by rw [hr]
  refine ⟨?_, ?_, ?_⟩
  · simp only [hcell, sum_range_countP]
    refine List.countP_eq_length.mpr fun e he => ?_
    rw [Bool.and_eq_true, decide_eq_true_eq, decide_eq_true_eq]
    exact ⟨hpred e he, (Int.toNat_lt (h e he).1).mpr (h e he).2.1⟩
  · simp only [hdiag, sum_range_countP]
    exact List.countP_congr fun e he => by rw [decide_eq_true (hpred e he), Bool.and_true]
  · show [MeanStat.reduce ((exs.map MeanMetric.accuracy.eval).map fun v => v.getD 0 MeanStat.zero)] = _
    rw [List.map_map, numCorrect, ← sum_ind_countP, ← reduce_new_one]
    rfl

/-- `masked_target_values` of the sequence metrics -/
def MeanMetric.maskedValues? : MeanMetric → Option (List Int)
  | .seqTokenCE m _ => some m
  | .seqCE m => some m
  | .seqTokenAcc m _ _ => some m
  | .seqTokenTopK _ m _ _ => some m
  | .seqTruncRate _ m => some m
  | .seqOOVRate _ m _ => some m
  | .seqLength m => some m
  | _ => none

/-- number of non-masked tokens -/
def numTokens (masked : List Int) (ts : List Int) : Nat := ts.countP fun t => !masked.contains t

theorem ind_nonneg (b : Bool) : 0 ≤ ind b := by cases b <;> decide

theorem ind_ne_zero (b : Bool) : (ind b != 0) = b := by cases b <;> rfl

theorem weights_sum (masked : List Int) (ts : List Int) :
    (weights masked ts).sum = (numTokens masked ts : Rat) :=
  sum_ind_countP ts _

theorem weights_nonneg (masked : List Int) (ts : List Int) : ∀ w ∈ weights masked ts, (0 : Rat) ≤ w :=
  List.forall_mem_map.mpr fun _ _ => ind_nonneg _

theorem anyWeight_eq (masked : List Int) (ts : List Int) :
    anyWeight (weights masked ts) = ind (decide (0 < numTokens masked ts)) := by
  rw [anyWeight, weights, List.any_map, numTokens]
  refine congrArg ind ?_
  rw [Bool.eq_iff_iff, List.any_eq_true, decide_eq_true_eq, List.countP_pos_iff]
  simp only [Function.comp, targetWeight, ind_ne_zero]

theorem numTokens_zero {masked ts : List Int} (h : ∀ t ∈ ts, t ∈ masked) : numTokens masked ts = 0 :=
  List.countP_eq_zero.mpr fun t ht => by
    rw [List.contains_iff_mem.mpr (h t ht)]
    exact Bool.false_ne_true

theorem weights_zero {masked ts : List Int} (h : ∀ t ∈ ts, t ∈ masked) :
    ∀ w ∈ weights masked ts, w = 0 :=
  List.forall_mem_map.mpr fun t ht => by
    rw [targetWeight, List.contains_iff_mem.mpr (h t ht)]
    rfl

theorem tokenStat_zero {pp : Bool} {vals ws : List Rat} (hw : ∀ w ∈ ws, w = 0) (hs : ws.sum = 0) :
    ∀ s ∈ tokenStat pp vals ws, s = MeanStat.zero :=
  forall_mem_tokenStat fun a w hw' => by
    rw [hw'.elim (hw w) (·.trans hs)]
    exact MeanStat.new_zero_weight a

/-- **A sequence whose targets are all masked yields `zero`** in every entry of every sequence
metric (and count 0 for the two counting metrics) — whatever the predictions are. -/
theorem C14_fully_masked (masked : List Int) (e : Ex) (hall : ∀ t ∈ e.targets, t ∈ masked) :
    (∀ m : MeanMetric, m.maskedValues? = some masked → ∀ s ∈ m.eval e, s = MeanStat.zero) ∧
    (SumMetric.seqTokenCount masked).eval e = [SumStat.zero] ∧
    (SumMetric.seqCount masked).eval e = [SumStat.zero] := by
  have hn := numTokens_zero hall
  have hw := weights_zero hall
  have hsum : (weights masked e.targets).sum = 0 := by rw [weights_sum, hn, Nat.cast_zero]
  have hany : anyWeight (weights masked e.targets) = 0 := by
    rw [anyWeight_eq, hn]
    rfl
  refine ⟨fun m hm => ?_, ?_, ?_⟩
  · cases m with
    | seqTokenCE _ _ | seqTokenAcc _ _ _ | seqTokenTopK _ _ _ _ | seqOOVRate _ _ _ =>
      cases hm
      exact tokenStat_zero hw hsum
    | seqCE _ | seqTruncRate _ _ | seqLength _ =>
      cases hm
      intro s hs
      rw [List.mem_singleton.mp hs, hany]
      exact MeanStat.new_zero_weight _
    | _ => cases hm
  · exact congrArg (fun x => [SumStat.mk x]) hsum
  · exact congrArg (fun x => [SumStat.mk x]) hany

/-- **Token weights**: `SequenceTokenCount` is the number `n` of non-masked tokens,
`SequenceCount` is `[n > 0]`, `SequenceLength` is `new n [n > 0]`, and the weight of every
(non per-position) token metric is `n`. -/
theorem C14_token_weights (masked : List Int) (e : Ex) :
    let n : Rat := numTokens masked e.targets
    (SumMetric.seqTokenCount masked).eval e = [⟨n⟩] ∧
    (SumMetric.seqCount masked).eval e = [⟨ind (decide (0 < numTokens masked e.targets))⟩] ∧
    (MeanMetric.seqLength masked).eval e = [MeanStat.new n (ind (decide (0 < numTokens masked e.targets)))] ∧
    (∀ vals, ∀ s ∈ tokenStat false vals (weights masked e.targets), s.weight = n) := by
  intro n
  refine ⟨?_, ?_, ?_, fun vals s hs => ?_⟩
  · exact congrArg (fun x => [SumStat.mk x]) (weights_sum masked e.targets)
  · exact congrArg (fun x => [SumStat.mk x]) (anyWeight_eq masked e.targets)
  · show [MeanStat.new _ _] = _
    rw [weights_sum, anyWeight_eq]
  · rw [List.mem_singleton.mp hs, weights_sum]
    exact max_eq_right Rat.natCast_nonneg

theorem zipWith_new_sums {vals ws : List Rat} (hl : vals.length = ws.length) (hw : ∀ w ∈ ws, (0 : Rat) ≤ w) :
    ((List.zipWith (fun v w => MeanStat.new (v * w) w) vals ws).map (·.accum)).sum = dot vals ws ∧
    ((List.zipWith (fun v w => MeanStat.new (v * w) w) vals ws).map (·.weight)).sum = ws.sum := by
  induction vals generalizing ws with
  | nil =>
    cases List.length_eq_zero_iff.mp hl.symm
    exact ⟨rfl, rfl⟩
  | cons v vals ih =>
    cases ws with
    | nil => cases hl
    | cons w ws =>
      obtain ⟨hw0, hws⟩ := List.forall_mem_cons.mp hw
      obtain ⟨ih1, ih2⟩ := ih (Nat.succ.inj hl) hws
      -- `(v * w, w)` lies in the documented domain, so `new` leaves it alone
      have hnew : MeanStat.new (v * w) w = ⟨v * w, w⟩ :=
        MeanStat.Valid.new_self (s := ⟨v * w, w⟩)
          ((lt_or_eq_of_le hw0).elim Or.inr fun h => Or.inl ⟨by rw [← h, mul_zero], h.symm⟩)
      simp only [List.zipWith_cons_cons, List.map_cons, List.sum_cons, hnew, ih1, ih2, dot, and_self]

theorem tokenStat_reduce {vals ws : List Rat} (hl : vals.length = ws.length) (hw : ∀ w ∈ ws, (0 : Rat) ≤ w) :
    [MeanStat.reduce (tokenStat true vals ws)] = tokenStat false vals ws := by
  obtain ⟨h1, h2⟩ := zipWith_new_sums hl hw
  simp only [tokenStat, if_true, Bool.false_eq_true, if_false, MeanStat.reduce, h1, h2]

/-- **Summing a `per_position=True` statistic over the positions gives the
`per_position=False` statistic** (accum and weight), for the four metrics that have the flag. -/
theorem C14_per_position_sum (len : Nat) (e : Ex) (he : e.WellShaped len) (masked : List Int) :
    [MeanStat.reduce ((MeanMetric.seqTokenCE masked true).eval e)] = (MeanMetric.seqTokenCE masked false).eval e ∧
    (∀ lm, [MeanStat.reduce ((MeanMetric.seqTokenAcc masked lm true).eval e)]
      = (MeanMetric.seqTokenAcc masked lm false).eval e) ∧
    (∀ k lm, [MeanStat.reduce ((MeanMetric.seqTokenTopK k masked lm true).eval e)]
      = (MeanMetric.seqTokenTopK k masked lm false).eval e) ∧
    (∀ oov, [MeanStat.reduce ((MeanMetric.seqOOVRate oov masked true).eval e)]
      = (MeanMetric.seqOOVRate oov masked false).eval e) := by
  obtain ⟨h1, h2, h3⟩ := he
  have hw := weights_nonneg masked e.targets
  refine ⟨?_, fun lm => ?_, fun k lm => ?_, fun oov => ?_⟩ <;>
    refine tokenStat_reduce ?_ hw <;>
    simp only [weights_length, List.length_zipWith, List.length_map, h1, h2, h3, Nat.min_self]

-- ties → lowest index; `-∞` logits masks
example : argmaxFirst [.fin 1, .fin 5, .fin 5, .ninf] = 1 := by decide +kernel
example : ([Score.fin 1, .fin 5, .fin 5, .ninf] : List Score) ≠ [] := by decide
-- stable argsort and rank agree on a vector with ties
example : argsortDesc [.fin 1, .fin 5, .fin 5, .ninf, .fin 7] = [4, 1, 2, 0, 3] := by decide +kernel
example : (List.range 5).map (rank [.fin 1, .fin 5, .fin 5, .ninf, .fin 7]) = [3, 1, 2, 4, 0] := by decide +kernel
-- k < 1 → 0 (the documented behaviour, also for k = -1), k ≥ classes → 1
example : inTopK (-1) [.fin 3, .fin 2, .fin 1] 0 = false ∧ inTopK 0 [.fin 3, .fin 2, .fin 1] 0 = false ∧
    inTopK 3 [.fin 3, .fin 2, .fin 1] 2 = true ∧ inTopK 2 [.fin 3, .fin 2, .fin 1] 2 = false := by decide +kernel
-- docstring example of SequenceTokenTopKAccuracy(k=2, logits_mask=(0,0,0,-inf)), position 0 (scores × 2)
example : inTopK 2 (applyMask [0, 2, 1, 0] (some [.fin 0, .fin 0, .fin 0, .ninf])) 1 = true := by decide +kernel
-- the hypotheses of C14_confusion_trace are satisfiable
example : let e : Ex := ⟨[2], [[0, 1, 0]], [], 1⟩
    0 ≤ e.target ∧ e.target < 3 ∧ e.scores0.length = 3 ∧ predicted e = 1 := by decide +kernel
example : cell [⟨[2], [[0, 1, 0]], [], 0⟩, ⟨[1], [[0, 1, 1]], [], 0⟩] 2 1 = 1 ∧
    numCorrect [⟨[2], [[0, 1, 0]], [], 0⟩, ⟨[1], [[0, 1, 1]], [], 0⟩] = 1 := by decide +kernel
-- a fully masked sequence and a partly masked one
example : (∀ t ∈ [0, 0, 2], t ∈ [0, 2]) ∧ numTokens [0, 2] [1, 2, 2, 3, 4, 0, 0] = 3 := by decide +kernel
example : MeanMetric.maskedValues? (.seqOOVRate [2, 3] [0] false) = some [0] := rfl
example : (Ex.mk [1, 2, 3, 4, 0] [[], [], [], [], []] [[], [], [], [], []] 0).WellShaped 5 := ⟨rfl, rfl, rfl⟩

end FedjaxVerif.Metrics
