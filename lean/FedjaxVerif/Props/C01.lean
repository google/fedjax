import FedjaxVerif.Model.FedAvg
import FedjaxVerif.Model.ForEach
import FedjaxVerif.Lemmas.FedAvgVec
import FedjaxVerif.Lemmas.ListAux
import FedjaxVerif.Props.C02
import FedjaxVerif.Props.C07
import Mathlib.Algebra.Order.Field.Rat
import Mathlib.Data.List.Nodup

/-!
# C01 — a federated-averaging round equals its mathematical definition

Theorems about `Model/FedAvg.lean`, for every gradient function, every client and server
optimizer, every batch stream and every key.  Shape hypotheses (`hlen`) say that client deltas
have the dimension of the server parameters; they hold for the real code because JAX rejects
mismatching shapes.
-/

namespace FedjaxVerif.FedAvg

theorem accumulate_perm {ι} (size : ι → Nat) (zero : P) (r r' : List (ι × P)) (h : r.Perm r') :
    accumulate size zero r = accumulate size zero r' :=
  h.foldl_eq' (fun _ _ _ _ _ => Prod.ext (vadd_right_comm _ _ _) (add_right_comm _ _ _)) _

/-- **Order / backend independence.** The server half of the round depends on the per-client
results only as a multiset: any order in which a backend yields them (sequential order for
jit/debug, sorted blocks for pmap) gives the same new server state. -/
theorem C01_agg_perm {ι β σs} [DecidableEq ι] (sopt : Optimizer σs) (s : ServerState σs)
    (clients : List (Client ι β)) (r r' : List (ι × P)) (h : r.Perm r') :
    aggregate sopt s clients r = aggregate sopt s clients r' := by
  unfold aggregate
  rw [accumulate_perm _ _ r r' h]

theorem sizeOf_of_mem {ι β} [DecidableEq ι] (clients : List (Client ι β))
    (hnd : (clients.map (·.id)).Nodup) (c : Client ι β) (hc : c ∈ clients) :
    sizeOf clients c.id = c.size := by
  rw [sizeOf, ListAux.find?_of_nodup_map (·.id) (by rwa [List.map_reverse, List.nodup_reverse])
    (List.mem_reverse.mpr hc) fun _ => decide_eq_true_iff]

/-- the same for a cohort of richer client records `κ` -/
theorem sizeOf_map_of_mem {κ ι β} [DecidableEq ι] (g : κ → Client ι β) (l : List κ)
    (hnd : (l.map fun c => (g c).id).Nodup) (c : κ) (hc : c ∈ l) :
    sizeOf (l.map g) (g c).id = (g c).size :=
  sizeOf_of_mem (l.map g) (by rwa [List.map_map]) (g c) (List.mem_map_of_mem hc)

theorem sizeOf_of_not_mem {ι β} [DecidableEq ι] (clients : List (Client ι β)) (cid : ι)
    (h : ∀ c ∈ clients, c.id ≠ cid) : sizeOf clients cid = 0 := by
  rw [sizeOf, List.find?_eq_none.2 fun c hc => by simpa using h c (List.mem_reverse.1 hc)]

theorem sizeOf_perm {ι β} [DecidableEq ι] (clients clients' : List (Client ι β))
    (hp : clients.Perm clients') (hnd : (clients.map (·.id)).Nodup) (cid : ι) :
    sizeOf clients cid = sizeOf clients' cid := by
  by_cases h : ∃ c ∈ clients, c.id = cid
  · obtain ⟨c, hc, rfl⟩ := h
    rw [sizeOf_of_mem clients hnd c hc,
      sizeOf_of_mem clients' ((hp.map _).nodup_iff.mp hnd) c (hp.mem_iff.mp hc)]
  · rw [sizeOf_of_not_mem clients cid fun c hc e => h ⟨c, hc, e⟩,
      sizeOf_of_not_mem clients' cid fun c hc e => h ⟨c, hp.mem_iff.mpr hc, e⟩]

/-- **Client order.** Listing the clients (pairwise distinct ids) in another order gives the same
new server state. -/
theorem C01_perm {ι β σc σs} [DecidableEq ι] (grad : P → β → Key → P) (copt : Optimizer σc)
    (sopt : Optimizer σs) (s : ServerState σs) (clients clients' : List (Client ι β))
    (hp : clients.Perm clients') (hnd : (clients.map (·.id)).Nodup) :
    round grad copt sopt s clients = round grad copt sopt s clients' := by
  unfold round aggregate
  have hs : sizeOf clients = sizeOf clients' := funext (sizeOf_perm clients clients' hp hnd)
  rw [hs, accumulate_perm _ _ _ _ (show (clientResults grad copt s.params clients).Perm
    (clientResults grad copt s.params clients') from hp.map _)]

/-- the mathematical definition: coordinate `j` of the example-count-weighted mean of the deltas,
`0` when the total weight is `0` -/
def wmeanCoord (pairs : List (Nat × P)) (j : Nat) : Rat :=
  let total : Rat := (pairs.map fun p => (p.1 : Rat)).sum
  if total > 0 then (pairs.map fun p => (p.1 : Rat) * (p.2[j]?).getD 0).sum / total else 0

def wmean (d : Nat) (pairs : List (Nat × P)) : P := (List.range d).map (wmeanCoord pairs)

/-- The two components of the accumulator do not interact: the vector sum, and the total weight. -/
theorem accumulate_eq_pair {ι} (size : ι → Nat) (z : P) (rs : List (ι × P)) :
    accumulate size z rs = (rs.foldl (fun a r => vadd a (vscale (size r.1 : Rat) r.2)) z,
      (rs.map fun r => (size r.1 : Rat)).sum) := by
  rw [accumulate, Vec.foldl_pair (fun a (r : ι × P) => vadd a (vscale (size r.1 : Rat) r.2))
      (fun w r => w + (size r.1 : Rat)), Vec.foldl_add, zero_add]

theorem accumulate_snd {ι} (size : ι → Nat) (z : P) (rs : List (ι × P)) :
    (accumulate size z rs).2 = (rs.map fun r => (size r.1 : Rat)).sum :=
  congrArg Prod.snd (accumulate_eq_pair size z rs)

/-- The closed form needs every delta to have the dimension of the start vector; what holds of
ragged results (`vadd` cuts to the shorter argument) is `accumulate_append` below. -/
theorem accumulate_eq {ι} (size : ι → Nat) {d : Nat} (results : List (ι × P))
    (hlen : ∀ r ∈ results, r.2.length = d) (z : P) (hz : z.length = d) :
    accumulate size z results =
      ((List.range d).map fun j =>
          z[j]?.getD 0 + (results.map fun r => (size r.1 : Rat) * r.2[j]?.getD 0).sum,
       (results.map fun r => (size r.1 : Rat)).sum) := by
  rw [accumulate_eq_pair]
  refine congrArg (·, _) ((Vec.foldl_zipWith_add (fun r : ι × P => vscale (size r.1 : Rat) r.2)
    (fun r hr => (vscale_length _ _).trans (hlen r hr)) hz).trans ?_)
  simp only [vscale_getD]

theorem inverseWeight_accumulate {ι} (size : ι → Nat) (p : P) (results : List (ι × P))
    (hlen : ∀ r ∈ results, r.2.length = p.length) :
    inverseWeight (accumulate size (vzero p) results).1 (accumulate size (vzero p) results).2
      = wmean p.length (results.map fun r => (size r.1, r.2)) := by
  rw [accumulate_eq size results hlen _ (vzero_length p)]
  simp only [inverseWeight, vscale, wmean, List.map_map]
  refine List.map_congr_left fun j _ => ?_
  simp only [Function.comp_def, wmeanCoord, vzero_getD, zero_add, List.map_map]
  split
  · rw [one_div, div_eq_inv_mul]
  · rw [zero_mul]

/-- The aggregation shared by FedAvg and the algorithms built on it, for any per-client vector `δ`
and any richer client record `κ`: the running sums divided by the total weight are the mean
weighted by example counts. -/
theorem accumulate_mean {κ ι β} [DecidableEq ι] (g : κ → Client ι β) (l : List κ)
    (hnd : (l.map fun c => (g c).id).Nodup) (δ : κ → P) (z : P)
    (hlen : ∀ c ∈ l, (δ c).length = z.length) :
    inverseWeight (accumulate (sizeOf (l.map g)) (vzero z) (l.map fun c => ((g c).id, δ c))).1
        (accumulate (sizeOf (l.map g)) (vzero z) (l.map fun c => ((g c).id, δ c))).2
      = wmean z.length (l.map fun c => ((g c).size, δ c)) := by
  rw [inverseWeight_accumulate _ _ _ (List.forall_mem_map.2 hlen), List.map_map]
  refine congrArg (wmean _) (List.map_congr_left fun c hc => ?_)
  exact congrArg (·, δ c) (sizeOf_map_of_mem g l hnd c hc)

/-- **Round formula.** For clients with pairwise distinct ids whose deltas have the dimension of
the server parameters, the round is the server optimizer applied to the example-count-weighted mean
of the client deltas (all zeros when no example was seen); each delta is
`server params − params after the sequential optimizer steps over the client's own batches`, started
from the server params with a fresh client optimizer state and the client's own key
(`clientDelta`, by definition). -/
theorem C01_round_formula {ι β σc σs} [DecidableEq ι] (grad : P → β → Key → P) (copt : Optimizer σc)
    (sopt : Optimizer σs) (s : ServerState σs) (clients : List (Client ι β))
    (hnd : (clients.map (·.id)).Nodup)
    (hlen : ∀ c ∈ clients, (clientDelta grad copt s.params c.batches c.key).length = s.params.length) :
    round grad copt sopt s clients =
      serverUpdate sopt s (wmean s.params.length
        (clients.map fun c => (c.size, clientDelta grad copt s.params c.batches c.key))) := by
  have h := accumulate_mean id clients hnd _ s.params hlen
  rw [List.map_id] at h
  exact congrArg (serverUpdate sopt s) h

theorem sum_filter_weight (pairs : List (Nat × P)) (f : Nat × P → Rat) (hf : ∀ p, p.1 = 0 → f p = 0) :
    ((pairs.filter fun p => p.1 ≠ 0).map f).sum = (pairs.map f).sum := by
  induction pairs with
  | nil => rfl
  | cons p ps ih =>
    by_cases h : p.1 = 0
    · rw [List.filter_cons_of_neg (by simpa using h), ih, List.map_cons, List.sum_cons, hf p h, zero_add]
    · rw [List.filter_cons_of_pos (by simpa using h), List.map_cons, List.sum_cons, ih, List.map_cons,
        List.sum_cons]

theorem wmean_filter (d : Nat) (pairs : List (Nat × P)) :
    wmean d (pairs.filter fun p => p.1 ≠ 0) = wmean d pairs := by
  refine List.map_congr_left fun j _ => ?_
  rw [wmeanCoord, wmeanCoord, sum_filter_weight pairs _ fun p h => by rw [h, Nat.cast_zero],
    sum_filter_weight pairs _ fun p h => by rw [h, Nat.cast_zero, zero_mul]]

/-- **Zero-weight clients do not influence the round**: removing every client with zero examples
from the cohort gives the same new server state. -/
theorem C01_zero_weight {ι β σc σs} [DecidableEq ι] (grad : P → β → Key → P) (copt : Optimizer σc)
    (sopt : Optimizer σs) (s : ServerState σs) (clients : List (Client ι β))
    (hnd : (clients.map (·.id)).Nodup)
    (hlen : ∀ c ∈ clients, (clientDelta grad copt s.params c.batches c.key).length = s.params.length) :
    round grad copt sopt s clients
      = round grad copt sopt s (clients.filter fun c => c.size ≠ 0) := by
  have hsub : (clients.filter fun c => c.size ≠ 0).Sublist clients := List.filter_sublist
  -- the pairs of the filtered cohort are the cohort's pairs filtered by weight (`List.filter_map`)
  rw [C01_round_formula grad copt sopt s clients hnd hlen,
    C01_round_formula grad copt sopt s _ ((hsub.map _).nodup hnd) fun c hc => hlen c (hsub.subset hc),
    ← wmean_filter _ (clients.map _), List.filter_map]
  rfl

theorem wmean_all_zero (d : Nat) (pairs : List (Nat × P)) (h : ∀ p ∈ pairs, p.1 = 0) :
    wmean d pairs = List.replicate d 0 := by
  have hf : pairs.filter (fun p => p.1 ≠ 0) = [] :=
    List.filter_eq_nil_iff.2 fun p hp => by simp [h p hp]
  rw [← wmean_filter, hf]
  refine List.ext_getElem (by simp [wmean]) fun j _ _ => ?_
  simp [wmean, wmeanCoord]

theorem wmean_const (D : P) (pairs : List (Nat × P)) (h : ∀ p ∈ pairs, p.1 = 0 ∨ p.2 = D)
    (hpos : 0 < (pairs.map (·.1)).sum) : wmean D.length pairs = D := by
  have hpos' : 0 < (pairs.map fun p => (p.1 : Rat)).sum := by
    have hc := Nat.cast_pos (α := Rat).2 hpos
    rwa [Nat.cast_list_sum, List.map_map] at hc
  have hnum : ∀ j : Nat, (pairs.map fun p => (p.1 : Rat) * (p.2[j]?).getD 0).sum
      = (pairs.map fun p => (p.1 : Rat)).sum * D[j]?.getD 0 := fun j => by
    rw [← List.sum_map_mul_right]
    refine congrArg List.sum (List.map_congr_left fun p hp => ?_)
    rcases h p hp with h0 | hD
    · rw [h0, Nat.cast_zero, zero_mul, zero_mul]
    · rw [hD]
  refine (List.map_congr_left fun j _ => ?_).trans (Vec.eq_range_map D).symm
  rw [wmeanCoord, if_pos hpos', hnum, mul_div_cancel_left₀ _ hpos'.ne']

/-- **Plain SGD fixed point**: when every sampled client has zero examples, a round with plain
SGD as server optimizer leaves the server parameters unchanged (no NaN, no movement). -/
theorem C01_sgd_fixed_point {ι β σc} [DecidableEq ι] (grad : P → β → Key → P) (copt : Optimizer σc)
    (lr : Rat) (s : ServerState Unit) (clients : List (Client ι β))
    (hnd : (clients.map (·.id)).Nodup)
    (hlen : ∀ c ∈ clients, (clientDelta grad copt s.params c.batches c.key).length = s.params.length)
    (hzero : ∀ c ∈ clients, c.size = 0) :
    round grad copt (sgd lr) s clients = s := by
  rw [C01_round_formula grad copt (sgd lr) s clients hnd hlen,
    wmean_all_zero _ _ (List.forall_mem_map.2 hzero), ← vzero_eq_replicate]
  simp only [serverUpdate, sgd, vscale_vzero, vadd_vzero _ _ le_rfl]

/-- The diagnostics dictionary has exactly the participating client ids as keys. -/
theorem C01_diagnostics {ι β σc} [DecidableEq ι] (grad : P → β → Key → P) (copt : Optimizer σc)
    (params : P) (clients : List (Client ι β)) (i : ι) :
    i ∈ diagnosticsKeys (clientResults grad copt params clients) ↔ ∃ c ∈ clients, c.id = i := by
  rw [diagnosticsKeys, List.mem_eraseDups, clientResults, List.map_map, List.mem_map]
  rfl

/-- **Multi-round**: a run of `t+1` rounds is round `t+1` applied to the state (parameters *and*
server optimizer state) that `t` rounds produced. -/
theorem C01_multi_round {ι β σc σs} [DecidableEq ι] (grad : P → β → Key → P) (copt : Optimizer σc)
    (sopt : Optimizer σs) (s : ServerState σs) (cohorts : List (List (Client ι β)))
    (cohort : List (Client ι β)) :
    rounds grad copt sopt s (cohorts ++ [cohort])
      = round grad copt sopt (rounds grad copt sopt s cohorts) cohort := by
  simp [rounds, List.foldl_append]

/-- FedAvg's `client_init` / `client_step` / `client_final` as a for-each-client program -/
def feInit {σc} (copt : Optimizer σc) (shared : P) (key : Key) : ClientState σc := clientInit copt shared key
def feStep {β σc} (grad : P → β → Key → P) (copt : Optimizer σc) (st : ClientState σc) (b : β) :
    ClientState σc × Unit := (clientStep grad copt st b, ())
def feFinal {σc} (shared : P) (st : ClientState σc) : P := vsub shared st.params

def toFE {ι β} (c : Client ι β) : ForEach.Client ι β Key := ⟨c.id, c.batches, c.key⟩

/-- stated on the projection `(r.1, r.2.1)` that `C01_backend` applies to every result -/
theorem seqRun_toFE {ι β σc} (grad : P → β → Key → P) (copt : Optimizer σc) (params : P) (c : Client ι β) :
    let r := ForEach.seqRun (feInit copt) (feStep grad copt) feFinal params (toFE c)
    (r.1, r.2.1) = (c.id, clientDelta grad copt params c.batches c.key) := by
  simp only [ForEach.seqRun, toFE, feFinal, feInit, clientDelta]
  rw [show feStep grad copt = fun s b => (clientStep grad copt s b, ()) from rfl,
    ForEach.C02_with_step_result]

/-- **Backend independence.** Running the clients through the pmap backend (any device count, any
padding) instead of the sequential one leaves the round unchanged. -/
theorem C01_backend {ι β σc σs} [DecidableEq ι] (grad : P → β → Key → P) (copt : Optimizer σc)
    (sopt : Optimizer σs) (s : ServerState σs) (clients : List (Client ι β))
    (padI : Key → Key) (padB : β → β) (D : Nat) (hD : 0 < D) :
    aggregate sopt s clients
      ((ForEach.pmapRun (feInit copt) (feStep grad copt) feFinal padI padB id D s.params
        (clients.map toFE)).map fun r => (r.1, r.2.1))
      = round grad copt sopt s clients := by
  refine C01_agg_perm sopt s clients _ _ ?_
  have hp := (ForEach.C02_pmap_perm (feInit copt) (feStep grad copt) feFinal padI padB id D hD
    s.params (clients.map toFE)).map fun r => (r.1, r.2.1)
  rw [List.map_map, List.map_map] at hp
  exact hp.trans (.of_eq (List.map_congr_left fun c _ => seqRun_toFE grad copt s.params c))

/-- One step of `accumulate`, named so that running sums that start anywhere (`accumulate_append`,
the folds of `Algorithms.hypSums` and `Algorithms.gradsClient`) need not write it out. -/
def accStep {ι} (size : ι → Nat) (acc : P × Rat) (r : ι × P) : P × Rat :=
  (vadd acc.1 (vscale (size r.1 : Rat) r.2), acc.2 + (size r.1 : Rat))

theorem accumulate_eq_foldl {ι} (size : ι → Nat) (z : P) (rs : List (ι × P)) :
    accumulate size z rs = rs.foldl (accStep size) (z, 0) := rfl

theorem foldl_accStep_length_le {ι} (size : ι → Nat) (rs : List (ι × P)) (a : P × Rat) :
    (rs.foldl (accStep size) a).1.length ≤ a.1.length := by
  induction rs generalizing a with
  | nil => exact le_rfl
  | cons r rs ih =>
    refine (ih _).trans ?_
    rw [accStep, vadd_length]
    exact Nat.min_le_left _ _

/-- accumulation is a translation: what was there at the start can be added afterwards -/
theorem foldl_accStep_add {ι} (size : ι → Nat) (rs : List (ι × P)) (a b : P) (w w' : Rat) :
    rs.foldl (accStep size) (vadd a b, w + w')
      = (vadd a (rs.foldl (accStep size) (b, w')).1, w + (rs.foldl (accStep size) (b, w')).2) := by
  induction rs generalizing b w' with
  | nil => rfl
  | cons r rs ih =>
    simp only [List.foldl_cons, accStep]
    rw [vadd_assoc, add_assoc, ih]

/-- No length hypothesis: the running sum is never longer than `z` (`foldl_accStep_length_le`), so
`vzero z` is a unit for it. -/
theorem accumulate_append {ι} (size : ι → Nat) (z : P) (t1 t2 : List (ι × P)) :
    accumulate size z (t1 ++ t2)
      = (vadd (accumulate size z t1).1 (accumulate size (vzero z) t2).1,
          (accumulate size z t1).2 + (accumulate size (vzero z) t2).2) := by
  simp only [accumulate_eq_foldl, List.foldl_append]
  rw [← foldl_accStep_add, add_zero, vadd_vzero _ _ (foldl_accStep_length_le size t1 (z, 0))]

/-! ## the round's aggregation is `tree_mean` (link to the model of C07) -/

/-- FedAvg accumulates `Σ nᵢ·δᵢ` and `Σ nᵢ` itself instead of calling `tree_util.tree_mean`; for a
non-empty cohort the mean delta it feeds to the server optimizer is exactly what C07's model of
`tree_mean` returns on the pairs `(δᵢ, nᵢ)` — so everything proved about `tree_mean` in C07
(`C07_perm`, `C07_hull`, `C07_zero_total`, …) applies to the round's mean delta. -/
theorem C01_mean_is_tree_mean (d : Nat) (pairs : List (Nat × P)) (hne : pairs ≠ [])
    (hlen : ∀ p ∈ pairs, p.2.length = d) :
    TreeUtil.treeMean (pairs.map fun p => (p.2, (p.1 : Rat))) = some (wmean d pairs) := by
  rw [TreeUtil.C07_mean_formula d _ (mt List.map_eq_nil_iff.1 hne) (List.forall_mem_map.2 hlen)]
  refine congrArg some (List.map_congr_left fun k _ => ?_)
  unfold wmeanCoord TreeUtil.wmeanAt TreeUtil.totalW TreeUtil.wsumAt TreeUtil.coord
  simp only [List.map_map, Function.comp_def, List.getD_eq_getElem?_getD]

/-- The weights' unit is irrelevant to the round: feeding `tree_mean` the weights `c · nᵢ` for any one
`c > 0` (e.g. the fractions `nᵢ / Σ n` instead of the example counts) yields the same mean delta
(C07_mean_weight_scale ∘ C01_mean_is_tree_mean). -/
theorem C01_mean_weight_units (d : Nat) (c : Rat) (hc : 0 < c) (pairs : List (Nat × P))
    (hne : pairs ≠ []) (hlen : ∀ p ∈ pairs, p.2.length = d) :
    TreeUtil.treeMean (pairs.map fun p => (p.2, c * (p.1 : Rat))) = some (wmean d pairs) := by
  have h := TreeUtil.C07_mean_weight_scale d c hc (pairs.map fun p => (p.2, (p.1 : Rat)))
    (List.forall_mem_map.2 hlen)
  rw [List.map_map] at h
  rw [← C01_mean_is_tree_mean d pairs hne hlen, ← h]
  rfl

/-! ## the shape hypothesis is met by shape-preserving optimizers -/

/-- a client optimizer whose `apply` returns parameters of the dimension it was given -/
def ShapePreserving {σ} (opt : Optimizer σ) : Prop :=
  ∀ g st p, (opt.apply g st p).2.length = p.length

theorem clientSteps_length {β σc} (grad : P → β → Key → P) (copt : Optimizer σc)
    (h : ShapePreserving copt) (batches : List β) (st : ClientState σc) :
    (batches.foldl (clientStep grad copt) st).params.length = st.params.length := by
  induction batches generalizing st with
  | nil => rfl
  | cons b bs ih => exact (ih _).trans (h _ _ _)

/-- `hlen` of `C01_round_formula` holds for every shape-preserving client optimizer, whatever the
gradient function, batch stream and key. -/
theorem C01_delta_length {β σc} (grad : P → β → Key → P) (copt : Optimizer σc)
    (h : ShapePreserving copt) (params : P) (batches : List β) (key : Key) :
    (clientDelta grad copt params batches key).length = params.length := by
  rw [clientDelta, vsub_length, clientSteps_length grad copt h batches]
  exact Nat.min_self _

/-- SGD with momentum is shape preserving as soon as gradients have the parameters' dimension;
for arbitrary gradients the result is never *longer* than the parameters. -/
theorem momentum_length_le (lr m : Rat) (nesterov : Bool) (g t p : P) :
    ((momentum lr m nesterov).apply g t p).2.length ≤ p.length := by
  simp only [momentum, vadd_length]
  exact Nat.min_le_left _ _

def exGrad : P → Nat → Key → P := fun p b _ => vscale (b : Rat) p
/-- a concrete two-client cohort (sizes 2 and 0, distinct ids) meets the hypotheses of the
formula with SGD client optimizer and the linear "gradient" `exGrad` -/
def exClients : List (Client Nat Nat) := [⟨7, 2, [1, 2], [false]⟩, ⟨8, 0, [], [true, false]⟩]

example : (exClients.map (·.id)).Nodup := by decide
example : ∀ c ∈ exClients,
    (clientDelta exGrad (sgd (1/2)) [1, 2] c.batches c.key).length = ([1, 2] : P).length := by
  decide +kernel
example : (round exGrad (sgd (1/2)) (sgd 1) ⟨[1, 2], ()⟩ exClients).params = [0, 0] := by
  decide +kernel

example : wmean 2 [(2, [1, 3]), (0, [100, 100]), (2, [3, 5])] = [2, 4] := by decide +kernel

end FedjaxVerif.FedAvg
