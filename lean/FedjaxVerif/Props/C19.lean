import FedjaxVerif.Model.Cache
import FedjaxVerif.Lemmas.Ceil

/-!
# C19 — downloaded and decompressed cache files appear only when complete

Theorems about `Model/Cache.lean`.  They quantify over every payload length, every block size `≥ 1`,
every initial cache directory whose *final* names are complete (temp names may hold anything,
including stale garbage), every call, every crash point `(c, p)` (`c` completed effects, `p` bytes of
the next write) and every sequence of interrupted calls.
-/

namespace FedjaxVerif.Cache

@[simp] theorem set_same (fs : FS) (n : Name) (c : Option Content) : fs.set n c n = c := by
  simp [FS.set]

theorem set_other {fs : FS} {n m : Name} {c : Option Content} (h : m ≠ n) : fs.set n c m = fs m := by
  simp [FS.set, h]

@[simp] theorem applyEffs_nil (fs : FS) : applyEffs fs [] = fs := rfl

@[simp] theorem applyEffs_cons (fs : FS) (e : Eff) (es : List Eff) :
    applyEffs fs (e :: es) = applyEffs (applyEff fs e) es := rfl

@[simp] theorem applyEffs_append (fs : FS) (a b : List Eff) :
    applyEffs fs (a ++ b) = applyEffs (applyEffs fs a) b := List.foldl_append

/-- the effect may change what is stored under `n` -/
def Touches (n : Name) : Eff → Prop
  | .truncate m => n = m
  | .append m _ => n = m
  | .rename a b => n = a ∨ n = b
  | _ => False

theorem applyEff_frame {fs : FS} (e : Eff) {n : Name} (h : ¬ Touches n e) : applyEff fs e n = fs n := by
  cases e with
  | truncate m => exact set_other h
  | net | read => rfl
  | append m k =>
    simp only [applyEff]
    cases fs m with
    | some c => exact set_other h
    | none => rfl
  | rename a b =>
    simp only [Touches, not_or] at h
    simp only [applyEff]
    cases fs a with
    | some c => exact (set_other h.2).trans (set_other h.1)
    | none => rfl

theorem applyEffs_frame (es : List Eff) {n : Name} (h : ∀ e ∈ es, ¬ Touches n e) (fs : FS) :
    applyEffs fs es n = fs n :=
  List.foldlRecOn (motive := fun g => g n = fs n) es applyEff rfl
    fun _ hg e he => (applyEff_frame e (h e he)).trans hg

/-- the state a crash `(c, p)` inside the effect list `es` leaves: `crash` with the plan given
(`crash_of_some`) -/
def crashed (fs : FS) (es : List Eff) (c p : Nat) : FS := applyPartial (applyEffs fs (es.take c)) p es[c]?

theorem crashed_frame (es : List Eff) {n : Name} (h : ∀ e ∈ es, ¬ Touches n e) {fs : FS} {c p : Nat} :
    crashed fs es c p n = fs n := by
  have h1 := applyEffs_frame (es.take c) (fun e he => h e (List.mem_of_mem_take he)) fs
  unfold crashed
  cases he : es[c]? with
  | none => exact h1
  | some e =>
    cases e with
    | append m k =>
      exact (applyEff_frame (.append m (min p k)) (h (.append m k) (List.mem_of_getElem? he))).trans h1
    | _ => exact h1

theorem crashed_of_length_le {fs : FS} {es : List Eff} {c p : Nat} (h : es.length ≤ c) :
    crashed fs es c p = applyEffs fs es := by
  rw [crashed, List.take_of_length_le h, List.getElem?_eq_none h]
  rfl

/-- a crash before a final rename does not see it: a rename has no intermediate states -/
theorem crashed_append_rename {fs : FS} {pre : List Eff} {a b : Name} {c p : Nat} (h : c ≤ pre.length) :
    crashed fs (pre ++ [Eff.rename a b]) c p = crashed fs pre c p := by
  rw [crashed, crashed, List.take_append_of_le_length h]
  rcases Nat.lt_or_eq_of_le h with h | rfl
  · rw [List.getElem?_append_left h]
  · simp [applyPartial]

theorem blocks_content {rd : Eff} (hrd : ∀ fs, applyEff fs rd = fs) {tmp : Name} (m : Nat → Nat) (k : Nat)
    {fs : FS} {c : Content} (h : fs tmp = some c) :
    applyEffs fs ((List.range k).flatMap fun i => [rd, Eff.append tmp (m i)]) tmp
      = some ⟨c.len + ((List.range k).map m).sum, c.ok⟩ := by
  induction k with
  | zero => simpa using h
  | succ k ih =>
    simp only [List.range_succ, List.flatMap_append, applyEffs_append, List.flatMap_cons,
      List.flatMap_nil, List.append_nil, applyEffs_cons, applyEffs_nil, hrd] at ih ⊢
    simp [applyEff, ih, Nat.add_assoc]

theorem min_add_min_sub (t B L : Nat) : min t L + min B (L - t) = min (t + B) L := by
  rcases Nat.le_total t L with h | h
  · rw [Nat.min_eq_left h, ← Nat.add_min_add_left, Nat.add_sub_cancel' h]
  · rw [Nat.min_eq_right h, Nat.sub_eq_zero_of_le h, Nat.min_zero,
      Nat.min_eq_right (Nat.le_add_right_of_le h), Nat.add_zero]

theorem sum_blockLen (L B k : Nat) : ((List.range k).map (blockLen L B)).sum = min (k * B) L := by
  induction k with
  | zero => simp
  | succ k ih =>
    rw [List.range_succ, List.map_append, List.sum_append, ih, Nat.succ_mul, ← min_add_min_sub]
    simp [blockLen]

/-- The block loop moves exactly the payload: the byte counts of the writes of a completed
download add up to the content length (no truncation without a crash, for every block size ≥ 1). -/
theorem C19_blocks_cover (L B : Nat) (hB : 0 < B) :
    ((List.range (nBlocks L B)).map (blockLen L B)).sum = L := by
  rw [sum_blockLen]
  exact Nat.min_eq_right (Ceil.le_ceil_mul L hB)

theorem transfer_complete {rd : Eff} (hrd : ∀ fs, applyEff fs rd = fs) {tmp : Name} {L B : Nat}
    (hB : 0 < B) {fs : FS} (h : fs tmp = some ⟨0, true⟩) :
    applyEffs fs (transfer rd tmp L B) tmp = some ⟨L, true⟩ := by
  rw [transfer, blocks_content hrd _ _ h, C19_blocks_cover L B hB, Nat.zero_add]

theorem forall_mem_transfer {P : Eff → Prop} {rd : Eff} {tmp : Name} {L B : Nat} (hrd : P rd)
    (hap : ∀ m, P (.append tmp m)) : ∀ e ∈ transfer rd tmp L B, P e := by
  intro e h
  obtain ⟨i, _, hi⟩ := List.mem_flatMap.mp h
  rcases List.mem_cons.mp hi with rfl | hi
  · exact hrd
  · exact List.mem_singleton.mp hi ▸ hap _

/-! A call that has work to do is `writePhase z call ++ [rename call.tmp call.fin]`: it writes under
its own temp name and publishes with one rename. -/

def Call.tmp : Call → Name
  | .download => .dlPart
  | .decompress => .decPart

def Call.fin : Call → Name
  | .download => .dl
  | .decompress => .dec

def Call.len (z : Sizes) : Call → Nat
  | .download => z.dlLen
  | .decompress => z.decLen

/-- the read effect of the call: network for the download, the local archive for the decompression -/
def Call.rd : Call → Eff
  | .download => .net
  | .decompress => .read

def writePhase (z : Sizes) : Call → List Eff
  | .download => [Eff.truncate .dlPart, Eff.net] ++ transfer .net .dlPart z.dlLen z.dlBlock
  | .decompress => [Eff.read, Eff.truncate .decPart] ++ transfer .read .decPart z.decLen z.decBlock ++ [Eff.read]

def Final : Name → Prop
  | .dl => True | .dec => True | _ => False

/-- **the invariant**: a file visible under a final name holds the complete, correct payload -/
def Inv (z : Sizes) (fs : FS) : Prop :=
  (∀ c, fs .dl = some c → c = ⟨z.dlLen, true⟩) ∧ (∀ c, fs .dec = some c → c = ⟨z.decLen, true⟩)

theorem exists_fin_of_final {n : Name} (h : Final n) : ∃ call : Call, n = call.fin := by
  cases n with
  | dl => exact ⟨.download, rfl⟩
  | dec => exact ⟨.decompress, rfl⟩
  | dlPart | decPart => exact h.elim

theorem result_eq (call : Call) (fs : FS) : result call fs = fs call.fin := by
  cases call <;> rfl

theorem fin_ne_tmp (call' call : Call) : call'.fin ≠ call.tmp := by
  cases call <;> cases call' <;> decide

theorem fin_injective {call call' : Call} : call'.fin = call.fin → call' = call := by
  cases call <;> cases call' <;> simp [Call.fin]

section
variable {z : Sizes} {call : Call} {fs : FS}

theorem inv_iff : Inv z fs ↔ ∀ (call : Call) c, fs call.fin = some c → c = ⟨call.len z, true⟩ :=
  ⟨fun h => fun | .download => h.1 | .decompress => h.2, fun h => ⟨h .download, h .decompress⟩⟩

theorem crash_of_some {es : List Eff} (h : plan z call fs = some es) (c p : Nat) :
    crash z call fs c p = crashed fs es c p := by
  rw [crash, h]
  rfl

theorem complete_of_some {es : List Eff} (h : plan z call fs = some es) :
    complete z call fs = some (applyEffs fs es) := by
  rw [complete, h]
  rfl

theorem plan_of_present (h : (fs call.fin).isSome) : plan z call fs = some [] := by
  cases call with
  | download => exact congrArg some (if_pos h)
  | decompress => exact if_pos h

/-- the three shapes of a call: it raises, it finds its file, or it writes and publishes it -/
theorem plan_cases (z : Sizes) (call : Call) (fs : FS) :
    (call = .decompress ∧ fs .dl ≠ some ⟨z.dlLen, true⟩ ∧ plan z call fs = none) ∨
    ((fs call.fin).isSome ∧ plan z call fs = some []) ∨
    (fs call.fin = none ∧
      plan z call fs = some (writePhase z call ++ [Eff.rename call.tmp call.fin])) := by
  by_cases hp : (fs call.fin).isSome
  · exact .inr (.inl ⟨hp, plan_of_present hp⟩)
  · have hf : fs call.fin = none := Option.not_isSome_iff_eq_none.mp hp
    cases call with
    | download => exact .inr (.inr ⟨hf, congrArg some (if_neg hp)⟩)
    | decompress =>
      rw [show plan z .decompress fs = _ from if_neg hp]
      cases hdl : fs .dl with
      | none => exact .inl ⟨rfl, nofun, rfl⟩
      | some c =>
        by_cases hc : c = ⟨z.dlLen, true⟩
        · refine .inr (.inr ⟨hf, (if_pos hc).trans ?_⟩)
          rw [writePhase, List.append_assoc _ [Eff.read]]
          rfl
        · exact .inl ⟨rfl, fun h => hc (Option.some.inj h), if_neg hc⟩

theorem forall_mem_writePhase {P : Eff → Prop} (hrd : P call.rd) (htr : P (.truncate call.tmp))
    (hap : ∀ m, P (.append call.tmp m)) : ∀ e ∈ writePhase z call, P e := by
  cases call <;> simp only [writePhase, List.forall_mem_append, List.forall_mem_cons]
  · exact ⟨⟨htr, hrd, List.forall_mem_nil _⟩, forall_mem_transfer hrd hap⟩
  · exact ⟨⟨⟨hrd, htr, List.forall_mem_nil _⟩, forall_mem_transfer hrd hap⟩, hrd, List.forall_mem_nil _⟩

theorem writePhase_not_touches {n : Name} (hn : n ≠ call.tmp) : ∀ e ∈ writePhase z call, ¬ Touches n e :=
  -- `¬ Touches n .net`, `¬ Touches n .read` are `False → False`
  forall_mem_writePhase (by cases call <;> exact id) hn fun _ => hn

theorem writePhase_complete (hB : 0 < z.dlBlock) (hB' : 0 < z.decBlock) :
    applyEffs fs (writePhase z call) call.tmp = some ⟨call.len z, true⟩ := by
  cases call
  · exact transfer_complete (fun _ => rfl) hB (set_same fs .dlPart _)
  · rw [writePhase, applyEffs_append]
    exact transfer_complete (fun _ => rfl) hB' (set_same fs .decPart _)

theorem publish_fin (hB : 0 < z.dlBlock) (hB' : 0 < z.decBlock) :
    applyEffs fs (writePhase z call ++ [Eff.rename call.tmp call.fin]) call.fin = some ⟨call.len z, true⟩ := by
  simp only [applyEffs_append, applyEffs_cons, applyEffs_nil, applyEff, writePhase_complete hB hB', set_same]

/-- an interrupted call leaves every name but its temp name as it was, except that under its final
name the completed plan may show -/
theorem crash_cases (z : Sizes) (call : Call) (fs : FS) (c p : Nat) {n : Name} (hn : n ≠ call.tmp) :
    crash z call fs c p n = fs n ∨
    (n = call.fin ∧ fs n = none ∧
      crash z call fs c p = applyEffs fs (writePhase z call ++ [Eff.rename call.tmp call.fin])) := by
  rcases plan_cases z call fs with ⟨_, _, hp⟩ | ⟨_, hp⟩ | ⟨hf, hp⟩
  · exact .inl (by rw [crash, hp])
  · rw [crash_of_some hp]
    exact .inl (crashed_frame [] (List.forall_mem_nil _))
  · rw [crash_of_some hp]
    by_cases hc : c ≤ (writePhase z call).length
    · rw [crashed_append_rename hc]
      exact .inl (crashed_frame _ (writePhase_not_touches hn))
    · -- `(writePhase ++ [rename]).length = writePhase.length + 1 ≤ c`: the whole plan has run
      rw [crashed_of_length_le (List.length_append ▸ Nat.lt_of_not_le hc)]
      by_cases hnf : n = call.fin
      · exact .inr ⟨hnf, hnf ▸ hf, rfl⟩
      · refine .inl (applyEffs_frame _ (List.forall_mem_append.mpr ⟨writePhase_not_touches hn, ?_⟩) fs)
        exact List.forall_mem_singleton.mpr fun h => h.elim hn hnf

/-- a completed call is a call interrupted after its last effect: what holds after every crash holds after
completion -/
theorem complete_eq_crash {fs' : FS} (h : complete z call fs = some fs') :
    ∃ c, fs' = crash z call fs c 0 := by
  obtain ⟨es, hp, rfl⟩ := Option.map_eq_some_iff.mp h
  exact ⟨es.length, by rw [crash_of_some hp, crashed_of_length_le (Nat.le_refl _)]⟩

/-- a call that does not raise (the decompression needs the complete archive) returns the complete file -/
theorem complete_result (hB : 0 < z.dlBlock) (hB' : 0 < z.decBlock) (h : Inv z fs)
    (hdl : call = .decompress → fs .dl = some ⟨z.dlLen, true⟩) :
    ∃ fs', complete z call fs = some fs' ∧ result call fs' = some ⟨call.len z, true⟩ := by
  simp only [result_eq]
  rcases plan_cases z call fs with ⟨hcall, hne, _⟩ | ⟨hf, hp⟩ | ⟨_, hp⟩
  · exact absurd (hdl hcall) hne
  · obtain ⟨c, hc⟩ := Option.isSome_iff_exists.mp hf
    exact ⟨_, complete_of_some hp, hc.trans (congrArg some (inv_iff.mp h call c hc))⟩
  · exact ⟨_, complete_of_some hp, publish_fin hB hB'⟩

end

/-- **Core (reuse).** If the final name is present, the call has no effect at all: its effect trace
is empty (no network read, no write, no rename) and the directory is returned unchanged. -/
theorem C19_reuse (z : Sizes) (call : Call) (fs : FS) (h : (result call fs).isSome) :
    plan z call fs = some [] ∧ complete z call fs = some fs ∧ ∀ c p, crash z call fs c p = fs := by
  rw [result_eq] at h
  have hp : plan z call fs = some [] := plan_of_present h
  refine ⟨hp, complete_of_some hp, fun c p => ?_⟩
  rw [crash_of_some hp]
  exact crashed_of_length_le (Nat.zero_le _)

/-- **Core.** After a crash at any point `(c, p)` of any call, a file visible under a final name is
complete: the invariant is preserved by every interrupted call. -/
theorem C19_final_complete_step (z : Sizes) (hB : 0 < z.dlBlock) (hB' : 0 < z.decBlock)
    (call : Call) (fs : FS) (c p : Nat) (h : Inv z fs) : Inv z (crash z call fs c p) := by
  rw [inv_iff] at h ⊢
  intro call' c1 hc1
  rcases crash_cases z call fs c p (fin_ne_tmp call' call) with hk | ⟨hcf, _, hk⟩
  · exact h call' c1 (hk.symm.trans hc1)
  · obtain rfl := fin_injective hcf
    rw [hk, publish_fin hB hB'] at hc1
    exact (Option.some.inj hc1).symm

/-- **Core.** The invariant holds after every sequence of interrupted calls. -/
theorem C19_final_complete (z : Sizes) (hB : 0 < z.dlBlock) (hB' : 0 < z.decBlock)
    (sched : List (Call × Nat × Nat)) (fs : FS) (h : Inv z fs) : Inv z (crashes z sched fs) :=
  List.foldlRecOn (motive := Inv z) sched _ h
    fun g hg x _ => C19_final_complete_step z hB hB' x.1 g x.2.1 x.2.2 hg

/-- A completed call also preserves the invariant. -/
theorem C19_complete_inv (z : Sizes) (hB : 0 < z.dlBlock) (hB' : 0 < z.decBlock)
    (call : Call) (fs fs' : FS) (h : Inv z fs) (hc : complete z call fs = some fs') : Inv z fs' := by
  obtain ⟨c, rfl⟩ := complete_eq_crash hc
  exact C19_final_complete_step z hB hB' call fs c 0 h

theorem persist_step (z : Sizes) (call : Call) {fs : FS} (c p : Nat) (n : Name) (hn : Final n)
    {c0 : Content} (h : fs n = some c0) : crash z call fs c p n = some c0 := by
  obtain ⟨call', rfl⟩ := exists_fin_of_final hn
  rcases crash_cases z call fs c p (fin_ne_tmp call' call) with hk | ⟨_, hf, _⟩
  · exact hk.trans h
  · cases hf.symm.trans h

theorem persist (z : Sizes) (sched : List (Call × Nat × Nat)) {fs : FS} (n : Name) (hn : Final n)
    {c0 : Content} (h : fs n = some c0) : crashes z sched fs n = some c0 :=
  List.foldlRecOn (motive := fun g : FS => g n = some c0) sched _ h
    fun _ hg x _ => persist_step z x.1 x.2.1 x.2.2 n hn hg

/-- Once present, a final file is never changed or removed by later (interrupted) calls. -/
theorem C19_persist_step (z : Sizes) (call : Call) (fs : FS) (c p : Nat) (n : Name) (hn : Final n)
    (c0 : Content) (h : fs n = some c0) (hinv : Inv z fs) : crash z call fs c p n = some c0 :=
  -- `hinv` is not needed
  persist_step z call c p n hn h

/-- Once present, a final file is never changed or removed by any sequence of later interrupted calls. -/
theorem C19_persist (z : Sizes) (hB : 0 < z.dlBlock) (hB' : 0 < z.decBlock)
    (sched : List (Call × Nat × Nat)) (fs : FS) (n : Name) (hn : Final n)
    (c0 : Content) (h : fs n = some c0) (hinv : Inv z fs) : crashes z sched fs n = some c0 :=
  -- `hB`, `hB'`, `hinv` are not needed
  persist z sched n hn h

/-- **Core (repair, download).** After any number of interrupted calls, a call of `maybe_download`
that runs to completion returns the complete file. -/
theorem C19_repair_download (z : Sizes) (hB : 0 < z.dlBlock) (hB' : 0 < z.decBlock)
    (sched : List (Call × Nat × Nat)) (fs : FS) (h : Inv z fs) :
    ∃ fs', complete z .download (crashes z sched fs) = some fs' ∧
      result .download fs' = some ⟨z.dlLen, true⟩ ∧ Inv z fs' := by
  have hinv := C19_final_complete z hB hB' sched fs h
  obtain ⟨fs', hc, hr⟩ := complete_result (call := .download) hB hB' hinv nofun
  exact ⟨fs', hc, hr, C19_complete_inv z hB hB' _ _ _ hinv hc⟩

/-- **Core (repair, decompress).** Once the compressed file is in the cache, after any number of
interrupted calls a call of `maybe_lzma_decompress` that runs to completion returns the complete
decompressed file (and leaves the compressed one alone). -/
theorem C19_repair_decompress (z : Sizes) (hB : 0 < z.dlBlock) (hB' : 0 < z.decBlock)
    (sched : List (Call × Nat × Nat)) (fs : FS) (h : Inv z fs) (c0 : Content) (hdl : fs .dl = some c0) :
    ∃ fs', complete z .decompress (crashes z sched fs) = some fs' ∧
      result .decompress fs' = some ⟨z.decLen, true⟩ ∧ result .download fs' = some ⟨z.dlLen, true⟩ ∧
      Inv z fs' := by
  have hinv := C19_final_complete z hB hB' sched fs h
  have hdl' := persist z sched .dl trivial hdl
  rw [h.1 c0 hdl] at hdl'
  obtain ⟨fs', hc, hr⟩ := complete_result hB hB' hinv fun _ => hdl'
  obtain ⟨c, hcr⟩ := complete_eq_crash hc
  exact ⟨fs', hc, hr, hcr ▸ persist_step z .decompress c 0 .dl trivial hdl',
    C19_complete_inv z hB hB' _ _ _ hinv hc⟩

/-- **Core (repair, whole pipeline).** From any cache directory whose finals are complete, after any
interrupted calls: download to completion, more interrupted calls, decompress to completion —
both returned files are complete. -/
theorem C19_repair (z : Sizes) (hB : 0 < z.dlBlock) (hB' : 0 < z.decBlock)
    (s1 s2 : List (Call × Nat × Nat)) (fs : FS) (h : Inv z fs) :
    ∃ fs1 fs2, complete z .download (crashes z s1 fs) = some fs1 ∧
      complete z .decompress (crashes z s2 fs1) = some fs2 ∧
      result .download fs2 = some ⟨z.dlLen, true⟩ ∧ result .decompress fs2 = some ⟨z.decLen, true⟩ := by
  obtain ⟨fs1, hc1, hr1, hi1⟩ := C19_repair_download z hB hB' s1 fs h
  obtain ⟨fs2, hc2, hr2, hr2', _⟩ := C19_repair_decompress z hB hB' s2 fs1 hi1 _ hr1
  exact ⟨fs1, fs2, hc1, hc2, hr2', hr2⟩

/-- Decompression never touches the network. -/
theorem C19_decompress_offline (z : Sizes) (fs : FS) (es : List Eff)
    (h : plan z .decompress fs = some es) : Eff.net ∉ es := by
  intro hn
  -- `cases h` closes the first case (no plan: `h` reads `none = some es`)
  rcases plan_cases z .decompress fs with ⟨_, _, hp⟩ | ⟨_, hp⟩ | ⟨_, hp⟩ <;> rw [hp] at h <;> cases h
  · cases hn
  · rcases List.mem_append.mp hn with hn | hn
    · -- `.read`, `.truncate _`, `.append _ _` are other constructors than `.net`
      exact forall_mem_writePhase (call := .decompress) (P := (· ≠ Eff.net)) nofun nofun nofun _ hn rfl
    · cases List.mem_singleton.mp hn

/-- cache with a stale garbage `.partial`, nothing else -/
def fs0 : FS := fun n => match n with | .dlPart => some ⟨3, false⟩ | _ => none
-- `dlLen` 10, `decLen` 20, `dlBlock` 4, `decBlock` 8
def z0 : Sizes := ⟨10, 20, 4, 8⟩

example : Inv z0 fs0 := by constructor <;> intro c h <;> simp [fs0] at h
-- the plan of a download is non-trivial and a crash in the middle leaves a truncated temp file only
example : (downloadEffs z0 fs0).length = 9 := by decide +kernel
example : crash z0 .download fs0 3 2 .dlPart = some ⟨2, true⟩ ∧ crash z0 .download fs0 3 2 .dl = none := by
  decide +kernel
example : (complete z0 .download fs0).map (fun fs => fs .dl) = some (some ⟨10, true⟩) := by decide +kernel
-- a decompression interrupted after 11 bytes: they sit under the temp name, the final name is absent
-- (an in-place decompression would show them under the final name and break the invariant)
example : (crashes z0 [(.download, 100, 0), (.decompress, 5, 3)] fs0) .dec = none ∧
    (crashes z0 [(.download, 100, 0), (.decompress, 5, 3)] fs0) .decPart = some ⟨11, true⟩ := by decide +kernel
example : ((List.range (nBlocks 10 4)).map (blockLen 10 4)) = [4, 4, 2] := by decide +kernel
example : ((plan z0 .decompress (crashes z0 [(.download, 100, 0)] fs0)).map List.length) = some 10 := by
  decide +kernel
example : (result .download (crashes z0 [(.download, 100, 0)] fs0)).isSome := by decide +kernel

end FedjaxVerif.Cache
