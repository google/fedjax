import FedjaxVerif.Model.Serialize
import FedjaxVerif.Lemmas.ListAux

/-!
# C16 — serialization round-trips every supported value exactly

Property theorems about `Model/Serialize.lean` (the model of `msgpack_serialize` /
`msgpack_deserialize` with their ext-type hooks, of the SQLite builder/reader and of the checkpoint
directory).
All statements quantify over every tree (any nesting depth), every shape, every supported dtype,
both byte orders, every item content.
-/

namespace FedjaxVerif.Serialize

theorem ofName_flex (t : String) : DType.ofName ("str" ++ t) = none ∧
    DType.ofName ("bytes" ++ t) = none ∧ DType.ofName ("void" ++ t) = none := by
  -- every comparison fails within two characters; one call, so that each name `ofName` knows is turned
  -- into its list of characters once (`simp` without `only` does not come back on the conjunction)
  simp only [DType.ofName, String.ext_iff, String.toList_append, String.reduceToList, List.cons_append,
    List.nil_append, List.cons.injEq, Char.reduceEq, false_and, and_false, ↓reduceIte, and_self]

/-- dtype naming: `np.dtype(d.name)` gives `d` back exactly for the numeric/bool dtypes and is
"not understood" for every fixed-width str/bytes/void dtype, whatever its width. -/
theorem C16_dtype_name (d : DType) :
    (d.numeric = true → DType.ofName d.name = some d) ∧
    (d.numeric = false → DType.ofName d.name = none) := by
  cases d with
  | strN b | bytesN b | voidN b _ => simp [DType.numeric, DType.name, ofName_flex]
  | _ => simp [DType.numeric, DType.ofName, DType.name]

theorem itemsize_pos {d : DType} (h : d.numeric = true) : 0 < d.itemsize := by
  cases d <;>
    first
    | decide
    | exact Bool.noConfusion h

theorem chunkGo_flatten {k : Nat} {items : List Bytes} (h : ∀ it ∈ items, it.length = k) :
    chunkGo k items.length items.flatten = items := by
  induction items with
  | nil => rfl
  | cons x xs ih =>
    obtain ⟨hx, hxs⟩ := List.forall_mem_cons.mp h
    simp only [List.length_cons, List.flatten_cons, chunkGo, List.take_left' hx, List.drop_left' hx,
      ih hxs]

theorem chunks_flatten {k : Nat} (hk : 0 < k) {items : List Bytes}
    (h : ∀ it ∈ items, it.length = k) : chunks k items.flatten = some items := by
  have hl : items.flatten.length = items.length * k := by
    rw [List.length_flatten, List.map_eq_replicate_iff.mpr h, List.sum_replicate_nat]
  simp [chunks, hl, Nat.mul_div_cancel _ hk, chunkGo_flatten h, Nat.ne_of_gt hk]

theorem mapO_shape (sh : List Nat) :
    mapO toNat? (sh.map fun (n : Nat) => MVal.int (n : Int)) = some sh := by
  induction sh with
  | nil => rfl
  | cons n ns ih => simp [mapO, toNat?, ih]

theorem swapItem_length (dt : DType) (b : Bytes) : (swapItem dt b).length = b.length := by
  unfold swapItem
  split
  · rw [List.length_append, List.length_reverse, List.length_reverse, ← List.length_append,
      List.take_append_drop]
  · exact List.length_reverse

theorem Nd.wf_iff (a : Nd) : a.wf = true ↔
    a.elems.length = prod a.shape ∧ ∀ it ∈ a.elems, it.length = a.dtype.itemsize := by
  simp only [Nd.wf, Bool.and_eq_true, decide_eq_true_eq, List.all_eq_true]

theorem nativeElems_wf {a : Nd} (hw : a.wf = true) :
    a.nativeElems.length = prod a.shape ∧ ∀ it ∈ a.nativeElems, it.length = a.dtype.itemsize := by
  have h := a.wf_iff.mp hw
  unfold Nd.nativeElems
  split
  · simpa only [List.length_map, List.forall_mem_map, swapItem_length] using h
  · exact h

theorem ndarrayToBytes_ok {v : Variant} {a : Nd} (h : ∀ b, a.dtype ≠ .voidN b true) :
    ndarrayToBytes v a = .ok (.arr [.arr (a.shape.map fun (n : Nat) => .int (n : Int)),
      .str a.dtype.name, .bin (tobytes v a)]) := by
  unfold ndarrayToBytes
  split
  · exact absurd ‹_› (h _)
  · rfl

/-- `_ndarray_from_bytes(_ndarray_to_bytes(arr))`: what the ext codes 1 (`ndarray`) and 3
(`npscalar`) of `_msgpack_ext_pack` / `_msgpack_ext_unpack` do to an array between them. -/
def ndRt (v : Variant) (a : Nd) : Except Err Nd :=
  match ndarrayToBytes v a with
  | .error e => .error e
  | .ok m => ndarrayFromBytes m

theorem ndRt_numeric (a : Nd) (hw : a.wf = true) (hn : a.dtype.numeric = true) :
    ndRt .repaired a = .ok a.toNative := by
  obtain ⟨hlen, hit⟩ := nativeElems_wf hw
  rw [ndRt, ndarrayToBytes_ok fun b hb => by simp [hb, DType.numeric] at hn]
  simp [ndarrayFromBytes, mapO_shape, (C16_dtype_name _).1 hn, tobytes, Variant.repaired,
    chunks_flatten (itemsize_pos hn) hit, hlen, Nd.toNative]

theorem ndRt_flex (a : Nd) (hn : a.dtype.numeric = false) :
    ndRt .repaired a = .error (match a.dtype with | .voidN _ true => .valueError | _ => .typeError) := by
  split
  · rw [ndRt, ndarrayToBytes, ‹a.dtype = _›]
  · rw [ndRt, ndarrayToBytes_ok ‹_›]
    simp [ndarrayFromBytes, mapO_shape, (C16_dtype_name _).2 hn]

theorem roundtrip_ndarray (v : Variant) (a : Nd) :
    roundtrip v (.ndarray a) = (ndRt v a).map .ndarray := by
  unfold roundtrip ndRt encode
  cases ndarrayToBytes v a with
  | error e => rfl
  | ok m =>
    simp only [decode]
    unfold extUnpack
    cases ndarrayFromBytes m <;> rfl

/-- `np.asarray(x)` of a numpy scalar is the 0-d native array; `ar[()]` gives the scalar back -/
theorem roundtrip_npscalar (v : Variant) (dt : DType) (item : Bytes) :
    roundtrip v (.npscalar dt item) =
      match ndRt v ⟨[], dt, false, [item]⟩ with
      | .error e => .error e
      | .ok a => match a.shape, a.elems with
        | [], [item] => .ok (.npscalar a.dtype item)
        | _, _ => .ok (.ndarray a) := by
  unfold roundtrip ndRt encode
  cases ndarrayToBytes v ⟨[], dt, false, [item]⟩ with
  | error e => rfl
  | ok m =>
    simp only [decode]
    unfold extUnpack
    cases ndarrayFromBytes m <;> rfl

theorem mapE_packPlain_rawElem {flat : List PyVal} (h : flat.all PyVal.isBytes = true) :
    ∃ ms, mapE packPlain flat = .ok ms ∧ mapE rawElem ms = .ok flat := by
  induction flat with
  | nil => exact ⟨[], rfl, rfl⟩
  | cons x xs ih =>
    rw [List.all_cons, Bool.and_eq_true] at h
    obtain ⟨ms, h1, h2⟩ := ih h.2
    cases x with
    | bytes b => exact ⟨.bin b :: ms, by simp [mapE, packPlain, h1], by simp [mapE, rawElem, h2]⟩
    | _ => exact Bool.noConfusion h.1

theorem roundtrip_objarr_ok {shape : List Nat} {elems : List PyVal} (hw : elems.length = prod shape)
    (h : elems.all PyVal.isBytes = true) :
    roundtrip .repaired (.objarr shape elems) = .ok (.objarr shape elems) := by
  obtain ⟨ms, h1, h2⟩ := mapE_packPlain_rawElem h
  simp [roundtrip, encode, bytesNdarrayToBytes, Variant.repaired, h, h1, h2, hw, decode, extUnpack,
    objectNdarrayFromBytes, mapO_shape]

theorem roundtrip_objarr_reject (shape : List Nat) {elems : List PyVal}
    (h : elems.all PyVal.isBytes = false) :
    roundtrip .repaired (.objarr shape elems) = .error .valueError := by
  simp [roundtrip, encode, bytesNdarrayToBytes, Variant.repaired, h]

/-! ## the round trip, by structural induction on trees -/

def IsErr {α} (r : Except Err α) : Prop := ∃ e, r = .error e

def rtList (v : Variant) (l : List PyVal) : Except Err (List PyVal) :=
  match encodeList v l with
  | .error e => .error e
  | .ok ms => decodeList ms

def rtKVs (v : Variant) (l : List (PyVal × PyVal)) : Except Err (List (PyVal × PyVal)) :=
  match encodeKVs v l with
  | .error e => .error e
  | .ok ms => decodeKVs ms

theorem isErr_of_not_ok {α} {r : Except Err α} (h : ∀ y, r ≠ .ok y) : IsErr r := by
  cases r with
  | error e => exact ⟨e, rfl⟩
  | ok y => exact absurd rfl (h y)

theorem roundtrip_eq_ok_iff {v : Variant} {x y : PyVal} :
    roundtrip v x = .ok y ↔ ∃ m, encode v x = .ok m ∧ decode m = .ok y := by
  unfold roundtrip
  cases encode v x <;> simp

/-- A list comes back iff its head and its tail do. This is a statement about `.ok` only: all of
`encode` runs before any of `decode`, so when the head fails in `decode` and the tail in `encode`
the list fails with the tail's error, and `rtList v (x :: xs)` is not `roundtrip v x` followed by
`rtList v xs`. -/
theorem rtList_cons_eq_ok_iff {v : Variant} {x : PyVal} {xs zs : List PyVal} :
    rtList v (x :: xs) = .ok zs ↔
      ∃ y, roundtrip v x = .ok y ∧ ∃ ys, rtList v xs = .ok ys ∧ y :: ys = zs := by
  unfold rtList roundtrip
  rw [encodeList]
  cases encode v x with
  | error e => simp only [reduceCtorEq, false_and, exists_false]
  | ok m =>
    cases encodeList v xs with
    | error e => simp
    | ok ms =>
      simp only [decodeList]
      cases decode m with
      | error e => simp only [reduceCtorEq, false_and, exists_false]
      | ok y => cases decodeList ms <;> simp

theorem rtKVs_cons_eq_ok_iff {v : Variant} {k x : PyVal} {r zs : List (PyVal × PyVal)} :
    rtKVs v ((k, x) :: r) = .ok zs ↔
      ∃ k', roundtrip v k = .ok k' ∧ k'.isKey = true ∧ ∃ y, roundtrip v x = .ok y ∧
        ∃ r', rtKVs v r = .ok r' ∧ (k', y) :: r' = zs := by
  unfold rtKVs roundtrip
  rw [encodeKVs]
  cases encode v k with
  | error e => simp only [reduceCtorEq, false_and, exists_false]
  | ok mk =>
    cases encode v x with
    | error e => simp
    | ok mx =>
      cases encodeKVs v r with
      | error e => simp
      | ok ms =>
        simp only [decodeKVs]
        cases decode mk with
        | error e => simp only [reduceCtorEq, false_and, exists_false]
        | ok k' =>
          cases decode mx with
          | error e => simp
          | ok y =>
            simp only [Except.ok.injEq, exists_eq_left']
            cases k'.isKey
            · simp
            · cases decodeKVs ms <;> simp

theorem roundtrip_list_eq_ok_iff {v : Variant} {l : List PyVal} {z : PyVal} :
    roundtrip v (.list l) = .ok z ↔ ∃ ys, rtList v l = .ok ys ∧ .list ys = z := by
  unfold roundtrip rtList encode
  cases encodeList v l with
  | error e => simp
  | ok ms => cases h : decodeList ms <;> simp [decode, h]

theorem roundtrip_dict_eq_ok_iff {v : Variant} {l : List (PyVal × PyVal)} {z : PyVal} :
    roundtrip v (.dict l) = .ok z ↔ ∃ ys, rtKVs v l = .ok ys ∧ .dict ys = z := by
  unfold roundtrip rtKVs encode
  cases encodeKVs v l with
  | error e => simp
  | ok ms => cases h : decodeKVs ms <;> simp [decode, h]

theorem native_isKey (k : PyVal) : (native k).isKey = k.isKey := by
  cases k <;> rfl

theorem isKey_supported {k : PyVal} (h : k.isKey = true) :
    wf k = true ∧ supported k = true ∧ native k = k := by
  cases k <;> first | exact Bool.noConfusion h | exact ⟨rfl, rfl, rfl⟩

/-- every leaf case of `roundtrip_iff`: the leaf comes back when supported and is an error otherwise -/
theorem iff_of_leaf {x y : PyVal} (hok : supported x = true → roundtrip .repaired x = .ok (native x))
    (herr : supported x = false → IsErr (roundtrip .repaired x)) :
    roundtrip .repaired x = .ok y ↔ supported x = true ∧ native x = y := by
  cases hs : supported x
  · obtain ⟨e, he⟩ := herr hs
    simp [he]
  · simp [hok hs]

mutual
/-- The round trip returns a value exactly for the supported trees, and then the tree in native byte order:
`C16_roundtrip`, `C16_never_altered` and `C16_reject` are three readings of this (lists and dict entries
by mutual induction). -/
theorem roundtrip_iff (x : PyVal) (hw : wf x = true) (y : PyVal) :
    roundtrip .repaired x = .ok y ↔ supported x = true ∧ native x = y := by
  match x with
  | .none | .bool _ | .float _ | .str _ | .bytes _ | .complex _ _ =>
    exact iff_of_leaf (fun _ => rfl) nofun
  | .tuple _ | .other => exact iff_of_leaf nofun fun _ => ⟨_, rfl⟩
  | .int i =>
    exact iff_of_leaf (fun (h : intInRange i = true) => by simp [roundtrip, encode, h, decode, native])
      fun (h : intInRange i = false) => ⟨.overflowError, by simp [roundtrip, encode, h]⟩
  | .ndarray a =>
    exact iff_of_leaf (fun hn => by rw [roundtrip_ndarray, ndRt_numeric a hw hn]; rfl)
      fun hn => ⟨_, by rw [roundtrip_ndarray, ndRt_flex a hn]; rfl⟩
  | .npscalar dt item =>
    have hw' : (⟨[], dt, false, [item]⟩ : Nd).wf = true := by simpa [wf, Nd.wf, prod] using hw
    exact iff_of_leaf (fun hn => by rw [roundtrip_npscalar, ndRt_numeric _ hw' hn]; rfl)
      fun hn => ⟨_, by rw [roundtrip_npscalar, ndRt_flex ⟨[], dt, false, [item]⟩ hn]⟩
  | .objarr shape elems =>
    exact iff_of_leaf (roundtrip_objarr_ok (of_decide_eq_true hw))
      fun hs => ⟨_, roundtrip_objarr_reject shape hs⟩
  | .extType _ _ => cases hw
  | .list l =>
    simp only [roundtrip_list_eq_ok_iff, rtList_iff l hw, supported, native, and_assoc, exists_and_left,
      exists_eq_left']
  | .dict l =>
    simp only [roundtrip_dict_eq_ok_iff, rtKVs_iff l hw, supported, native, and_assoc, exists_and_left,
      exists_eq_left']

theorem rtList_iff (l : List PyVal) (hw : wfList l = true) (ys : List PyVal) :
    rtList .repaired l = .ok ys ↔ supportedList l = true ∧ nativeList l = ys := by
  match l with
  | [] => simp [rtList, encodeList, decodeList, supportedList, nativeList]
  | x :: xs =>
    simp only [wfList, Bool.and_eq_true] at hw
    simp only [rtList_cons_eq_ok_iff, roundtrip_iff x hw.1, rtList_iff xs hw.2, supportedList, nativeList,
      Bool.and_eq_true, and_assoc, exists_and_left, exists_eq_left']

theorem rtKVs_iff (l : List (PyVal × PyVal)) (hw : wfKVs l = true) (ys : List (PyVal × PyVal)) :
    rtKVs .repaired l = .ok ys ↔ supportedKVs l = true ∧ nativeKVs l = ys := by
  match l with
  | [] => simp [rtKVs, encodeKVs, decodeKVs, supportedKVs, nativeKVs]
  | (k, x) :: r =>
    simp only [wfKVs, Bool.and_eq_true] at hw
    -- a key that comes back as a str/bytes was one, and such a key is its own native form
    cases hk : k.isKey
    · refine iff_of_false (fun h => ?_) (by simp [supportedKVs, hk])
      obtain ⟨k', h1, h2, -⟩ := rtKVs_cons_eq_ok_iff.mp h
      rw [← ((roundtrip_iff k hw.1.1 k').mp h1).2, native_isKey, hk] at h2
      cases h2
    · obtain ⟨-, hs, hn⟩ := isKey_supported hk
      simp only [rtKVs_cons_eq_ok_iff, roundtrip_iff k hw.1.1, roundtrip_iff x hw.1.2, rtKVs_iff r hw.2,
        supportedKVs, nativeKVs, hk, hs, hn, Bool.true_and, Bool.and_eq_true, true_and, and_assoc,
        exists_and_left, exists_eq_left']
end

/-- the entries of a dict: supported ones come back in native byte order, any other list of entries
is rejected -/
def GoodKVs (l : List (PyVal × PyVal)) : Prop :=
  (supportedKVs l = true → rtKVs .repaired l = .ok (nativeKVs l)) ∧
  (supportedKVs l = false → IsErr (rtKVs .repaired l))

theorem goodKVs (l : List (PyVal × PyVal)) (hw : wfKVs l = true) : GoodKVs l :=
  ⟨fun h => (rtKVs_iff l hw _).mpr ⟨h, rfl⟩,
   fun h => isErr_of_not_ok fun ys hy => Bool.eq_false_iff.mp h ((rtKVs_iff l hw ys).mp hy).1⟩

/-- **Round trip.** Every supported tree (any nesting of lists and str/bytes-keyed dicts over
numeric/bool arrays of any shape and byte order, bytes-object arrays, numpy scalars, Python scalars)
deserialises to itself, arrays being returned in native byte order. -/
theorem C16_roundtrip (t : PyVal) (hw : wf t = true) (hs : supported t = true) :
    roundtrip .repaired t = .ok (native t) := (roundtrip_iff t hw _).mpr ⟨hs, rfl⟩

/-- **Never silently altered.** Whenever the round trip returns a value at all, the input was
supported and the value is the input (in native byte order). -/
theorem C16_never_altered (t v : PyVal) (hw : wf t = true) (h : roundtrip .repaired t = .ok v) :
    supported t = true ∧ v = native t :=
  ((roundtrip_iff t hw v).mp h).imp_right Eq.symm

/-- **Rejection.** A tree containing, at any depth, a tuple, a fixed-width str/bytes array, a
structured/void dtype, an object array with a non-bytes element, an out-of-range int, a non-str/bytes
dict key or any other object is rejected with an error by `msgpack_serialize` or by
`msgpack_deserialize`. -/
theorem C16_reject (t : PyVal) (hw : wf t = true) (hs : supported t = false) :
    ∃ e, roundtrip .repaired t = .error e :=
  isErr_of_not_ok fun v hv => Bool.eq_false_iff.mp hs (C16_never_altered t v hw hv).1

/-- The stage is visible too: a supported tree is accepted by `msgpack_serialize`. -/
theorem C16_encode_ok (t : PyVal) (hw : wf t = true) (hs : supported t = true) :
    ∃ m, encode .repaired t = .ok m ∧ decode m = .ok (native t) :=
  roundtrip_eq_ok_iff.mp (C16_roundtrip t hw hs)

/-- Leaf-level form of the rejection clause, with the exception class the code raises. -/
theorem C16_reject_kinds :
    (∀ l, roundtrip .repaired (.tuple l) = .error .typeError) ∧
    (∀ a : Nd, (∃ b, a.dtype = .strN b) ∨ (∃ b, a.dtype = .bytesN b) ∨ (∃ b, a.dtype = .voidN b false) →
        roundtrip .repaired (.ndarray a) = .error .typeError) ∧
    (∀ a : Nd, (∃ b, a.dtype = .voidN b true) → roundtrip .repaired (.ndarray a) = .error .valueError) ∧
    (∀ shape elems, elems.all PyVal.isBytes = false →
        roundtrip .repaired (.objarr shape elems) = .error .valueError) ∧
    (∀ l, l ≠ [] → roundtrip .repaired (.list [.tuple l]) = .error .typeError) := by
  -- the last clause holds of the empty tuple as well
  refine ⟨fun _ => rfl, ?_, ?_, fun shape _ => roundtrip_objarr_reject shape, fun _ _ => rfl⟩
  · rintro a (⟨b, hb⟩ | ⟨b, hb⟩ | ⟨b, hb⟩) <;>
      simp [roundtrip_ndarray, ndRt_flex a (by rw [hb]; rfl), hb, Except.map]
  · rintro a ⟨b, hb⟩
    simp [roundtrip_ndarray, ndRt_flex a (by rw [hb]; rfl), hb, Except.map]

theorem itemValue_swap {dt : DType} {it : Bytes} (h : it.length = dt.itemsize) :
    itemValue dt false (swapItem dt it) = itemValue dt true it := by
  have h1 : ((it.take (dt.itemsize / 2)).reverse).length = dt.itemsize / 2 := by
    rw [List.length_reverse, List.length_take, h]
    exact Nat.min_eq_left (Nat.div_le_self _ _)
  unfold itemValue swapItem
  cases dt.isComplex
  · simp
  · simp [List.take_left' h1, List.drop_left' h1]

/-- **Native order keeps dtype, shape and values.** `native` (what a round trip returns) changes
nothing but the byte order flag: the numbers denoted by the items are the same. -/
theorem C16_native_preserves (a : Nd) (hw : a.wf = true) :
    a.toNative.shape = a.shape ∧ a.toNative.dtype = a.dtype ∧ a.toNative.swapped = false ∧
    a.toNative.values = a.values ∧ a.toNative.wf = true := by
  refine ⟨rfl, rfl, rfl, ?_, a.toNative.wf_iff.mpr (nativeElems_wf hw)⟩
  unfold Nd.values Nd.toNative Nd.nativeElems
  cases hs : a.swapped
  · rfl
  · simp only [if_true, List.map_map]
    exact List.map_congr_left fun it hmem => itemValue_swap ((a.wf_iff.mp hw).2 it hmem)

/-- a native-order array is returned bit for bit -/
theorem C16_native_id (a : Nd) (h : a.swapped = false) : a.toNative = a := by
  cases a
  simp_all [Nd.toNative, Nd.nativeElems]

/-- **Byte order.** For every numeric array, of either byte order: the round trip returns an array
with the same shape, the same dtype, and the same values. -/
theorem C16_byteorder (a : Nd) (hw : a.wf = true) (hn : a.dtype.numeric = true) :
    ∃ b, roundtrip .repaired (.ndarray a) = .ok (.ndarray b) ∧
      b.shape = a.shape ∧ b.dtype = a.dtype ∧ b.values = a.values :=
  ⟨a.toNative, C16_roundtrip (.ndarray a) hw hn, rfl, rfl, (C16_native_preserves a hw).2.2.2.1⟩

/-- The code of the unchanged tree (`Variant.asIs`: `tobytes` of the memory bytes under a
byte-order-free dtype name) does **not** have this property: the big-endian int32 array `[1]`
comes back as `[16777216]`. -/
theorem C16_byteorder_asis_counterexample :
    let a : Nd := ⟨[1], .int32, true, [[0, 0, 0, 1]]⟩
    ∃ b, roundtrip .asIs (.ndarray a) = .ok (.ndarray b) ∧
      a.values = [[1]] ∧ b.values = [[16777216]] :=
  ⟨⟨[1], .int32, false, [[0, 0, 0, 1]]⟩, rfl, by decide, by decide⟩

/-- The code of the unchanged tree type-checks only the first element of an object array:
`np.array([b'a', 'b'], dtype=object)` is accepted and comes back with its second element turned
into bytes — an unsupported leaf silently altered. The repaired variant rejects it. -/
theorem C16_objarr_asis_counterexample :
    let x : PyVal := .objarr [2] [.bytes [97], .str "b"]
    supported x = false ∧
    roundtrip .asIs x = .ok (.objarr [2] [.bytes [97], .bytes (utf8 "b")]) ∧
    roundtrip .repaired x = .error .valueError :=
  ⟨rfl, rfl, rfl⟩

/-- examples of one client: a non-empty dict keyed by str/bytes whose features are supported arrays
with leading dimension `n` -/
def ValidExamples (n : Nat) : PyVal → Prop
  | .dict kvs => kvs ≠ [] ∧ ∀ kv ∈ kvs, kv.1.isKey = true ∧ wf kv.2 = true ∧ supported kv.2 = true ∧
      leadDim kv.2 = .ok n
  | _ => False

theorem allDims_wf_supported {n : Nat} {kvs : List (PyVal × PyVal)}
    (h : ∀ kv ∈ kvs, kv.1.isKey = true ∧ wf kv.2 = true ∧ supported kv.2 = true ∧ leadDim kv.2 = .ok n) :
    allDims kvs = .ok (List.replicate kvs.length n) ∧ wfKVs kvs = true ∧ supportedKVs kvs = true := by
  induction kvs with
  | nil => exact ⟨rfl, rfl, rfl⟩
  | cons kv r ih =>
    obtain ⟨k, x⟩ := kv
    obtain ⟨⟨hk, hwx, hsx, hdim⟩, hr⟩ := List.forall_mem_cons.mp h
    obtain ⟨h0, h1, h2⟩ := ih hr
    simp [allDims, wfKVs, supportedKVs, hk, hwx, hsx, hdim, h0, h1, h2, (isKey_supported hk).1,
      List.replicate_succ]

theorem numExamples_wf_supported_of_valid {n : Nat} {ex : PyVal} (h : ValidExamples n ex) :
    numExamples ex = .ok n ∧ wf ex = true ∧ supported ex = true := by
  cases ex <;> simp only [ValidExamples] at h
  rename_i kvs
  obtain ⟨h0, h12⟩ := allDims_wf_supported h.2
  refine ⟨?_, h12⟩
  cases kvs with
  | nil => exact absurd rfl h.1
  | cons kv r => simp [numExamples, h0, List.replicate_succ]

/-- the row `add_many` stores for one client (total: under `ValidExamples` neither default is taken,
`rowOf_valid`) -/
def rowOf {β} (c : Codec β) (ce : Bytes × PyVal) : Row β :=
  ⟨ce.1,
   c.enc (match encode .repaired ce.2 with | .ok m => m | .error _ => .nil),
   match numExamples ce.2 with | .ok n => n | .error _ => 0⟩

theorem rowOf_valid {β} (c : Codec β) (ce : Bytes × PyVal) {n : Nat} (h : ValidExamples n ce.2) :
    ∃ m, encode .repaired ce.2 = .ok m ∧ decode m = .ok (native ce.2) ∧
      numExamples ce.2 = .ok n ∧ rowOf c ce = ⟨ce.1, c.enc m, n⟩ := by
  obtain ⟨h1, h2, h3⟩ := numExamples_wf_supported_of_valid h
  obtain ⟨m, hm, hdec⟩ := C16_encode_ok ce.2 h2 h3
  exact ⟨m, hm, hdec, h1, by simp [rowOf, hm, h1]⟩

theorem mem_clientIds {β} {t : Table β} {id : Bytes} :
    id ∈ clientIds t ↔ ∃ r ∈ t, (r.id == id) = true := by
  simp only [clientIds, List.mem_map, beq_iff_eq]

theorem addOne_ok {β} (c : Codec β) (t : Table β) (ce : Bytes × PyVal) {n : Nat}
    (h : ValidExamples n ce.2) (hid : ce.1 ∉ clientIds t) :
    addOne c .repaired t ce = .ok (t ++ [rowOf c ce]) := by
  obtain ⟨m, hm, -, h1, hrow⟩ := rowOf_valid c ce h
  rw [addOne, h1, hm, hrow]
  exact if_neg fun hany => hid (mem_clientIds.mpr (List.any_eq_true.mp hany))

theorem addMany_ok {β} (c : Codec β) {cs : List (Bytes × PyVal)} {t : Table β}
    (hv : ∀ ce ∈ cs, ∃ n, ValidExamples n ce.2) (hnd : (cs.map Prod.fst).Nodup)
    (hdis : ∀ ce ∈ cs, ce.1 ∉ clientIds t) :
    addMany c .repaired t cs = .ok (t ++ cs.map (rowOf c)) := by
  induction cs generalizing t with
  | nil => simp [addMany]
  | cons ce rest ih =>
    rw [List.forall_mem_cons] at hv hdis
    rw [List.map_cons, List.nodup_cons] at hnd
    obtain ⟨n, hn⟩ := hv.1
    -- the ids still to come are not in the table, and differ from the one just added
    have hdis' : ∀ x ∈ rest, x.1 ∉ clientIds (t ++ [rowOf c ce]) := by
      intro x hx
      rw [clientIds, List.map_append, List.mem_append, List.map_singleton, List.mem_singleton]
      have hne : x.1 ≠ ce.1 := fun e => hnd.1 (e ▸ List.mem_map_of_mem hx)
      exact not_or.mpr ⟨hdis.2 x hx, hne⟩
    rw [addMany, addOne_ok c t ce hn hdis.1]
    exact (ih hv.2 hnd.2 hdis').trans (by rw [List.append_assoc]; rfl)

/-- **SQLite round trip.** For every sequence of clients with distinct ids whose examples are valid
(supported features with a common number of rows), written by one `add_many` into a table that does
not contain those ids: the build succeeds; the table lists exactly the old ids followed by the new ids in
insertion order; `client_sizes` reports for every new client the number of rows of its examples; and
`get_client` returns every client's examples unchanged (in native byte order). The codec of the
`data` column (zlib ∘ msgpack bytes) enters through `dec (enc m) = some m`. -/
theorem C16_sqlite_roundtrip {β} (c : Codec β) (hc : ∀ m, c.dec (c.enc m) = some m)
    (t0 : Table β) (cs : List (Bytes × PyVal))
    (hv : ∀ ce ∈ cs, ∃ n, ValidExamples n ce.2)
    (hnd : (cs.map Prod.fst).Nodup) (hdis : ∀ ce ∈ cs, ce.1 ∉ clientIds t0) :
    ∃ t, addMany c .repaired t0 cs = .ok t ∧
      clientIds t = clientIds t0 ++ cs.map Prod.fst ∧
      (clientSizes t).map Prod.fst = clientIds t ∧
      (∀ r ∈ t0, r ∈ t) ∧
      ∀ ce ∈ cs, ∀ n, ValidExamples n ce.2 →
        clientSize t ce.1 = .ok n ∧ (ce.1, n) ∈ clientSizes t ∧
        getClient c t ce.1 = .ok (native ce.2) := by
  refine ⟨t0 ++ cs.map (rowOf c), addMany_ok c hv hnd hdis, ?_, ?_, ?_, ?_⟩
  · rw [clientIds, List.map_append, List.map_map]
    rfl
  · -- `client_sizes` lists the ids of any table
    exact List.map_map
  · exact fun r hr => List.mem_append_left _ hr
  · intro ce hmem n hn
    obtain ⟨m, -, hdec, -, hrow⟩ := rowOf_valid c ce hn
    -- the lookup passes over the old rows and, the new ids being distinct, stops at the client's row
    have hfind : (t0 ++ cs.map (rowOf c)).find? (fun r => r.id == ce.1) = some ⟨ce.1, c.enc m, n⟩ := by
      have hnone : t0.find? (fun r => r.id == ce.1) = none :=
        List.find?_eq_none.mpr fun r hr h => hdis ce hmem (mem_clientIds.mpr ⟨r, hr, h⟩)
      rw [List.find?_append, hnone, Option.none_or, ← hrow]
      exact ListAux.find?_of_nodup_map Row.id (by rwa [List.map_map]) (List.mem_map_of_mem hmem)
        fun _ => beq_iff_eq
    refine ⟨by simp [clientSize, hfind], ?_, by simp [getClient, hfind, hc, hdec]⟩
    exact List.mem_map.mpr ⟨_, List.mem_of_find?_eq_some hfind, rfl⟩

/-- `num_examples` stored by the builder is the common leading dimension of every feature. -/
theorem C16_sqlite_num_examples (n : Nat) (ex : PyVal) (h : ValidExamples n ex) :
    numExamples ex = .ok n := (numExamples_wf_supported_of_valid h).1

/-- a duplicate client id is rejected (primary key), the table is not changed -/
theorem C16_sqlite_duplicate {β} (c : Codec β) (v : Variant) (t : Table β) (ce : Bytes × PyVal)
    (h : ce.1 ∈ clientIds t) : ∃ e, addOne c v t ce = .error e := by
  unfold addOne
  cases numExamples ce.2 with
  | error e => exact ⟨e, rfl⟩
  | ok n =>
    cases encode v ce.2 with
    | error e => exact ⟨e, rfl⟩
    | ok m => exact ⟨.integrityError, if_pos (List.any_eq_true.mpr (mem_clientIds.mp h))⟩

/-! ## checkpoint directory: arbitrary histories of `save_checkpoint`

The directory as a finite map round ↦ state, `save_state`/`load_state` being trusted.  The crash-level model
of the same two functions of `checkpoint.py` (partial files, effect lists) is `Model/Experiment.lean` with the
`C09_retention*` theorems; no theorem relates the two models. -/

section Ckpt
variable {σ : Type}

def DirSorted (d : Dir σ) : Prop := d.Pairwise (fun a b => a.1 < b.1)

theorem filter_of_above {d : Dir σ} {r : Nat} (h : ∀ p ∈ d, r < p.1) :
    d.filter (·.1 < r) = [] ∧ d.filter (r < ·.1) = d :=
  ⟨List.filter_eq_nil_iff.mpr fun p hp => mt of_decide_eq_true (Nat.lt_asymm (h p hp)),
   List.filter_eq_self.mpr fun p hp => decide_eq_true (h p hp)⟩

theorem dirInsert_eq (r : Nat) (s : σ) {d : Dir σ} (hd : DirSorted d) :
    dirInsert r s d = d.filter (·.1 < r) ++ (r, s) :: d.filter (r < ·.1) := by
  induction d with
  | nil => rfl
  | cons q rest ih =>
    obtain ⟨hq, hrest⟩ := List.pairwise_cons.mp hd
    obtain ⟨r', s'⟩ := q
    have hlt : ∀ p ∈ rest, r' < p.1 := hq
    rw [dirInsert]
    rcases Nat.lt_trichotomy r r' with h | rfl | h
    · obtain ⟨h1, h2⟩ := filter_of_above (d := (r', s') :: rest)
        (List.forall_mem_cons.mpr ⟨h, fun p hp => Nat.lt_trans h (hlt p hp)⟩)
      rw [if_pos h, h1, h2]
      rfl
    · obtain ⟨h1, h2⟩ := filter_of_above hlt
      simp [h1, h2]
    · rw [if_neg (Nat.lt_asymm h), if_neg (Nat.ne_of_gt h), ih hrest,
        List.filter_cons_of_pos (by simpa using h),
        List.filter_cons_of_neg (by simpa using Nat.le_of_lt h)]
      rfl

theorem mem_dirInsert (r : Nat) (s : σ) {d : Dir σ} (hd : DirSorted d) (p : Nat × σ) :
    p ∈ dirInsert r s d ↔ p = (r, s) ∨ (p ∈ d ∧ p.1 ≠ r) := by
  -- below `r`, `(r, s)`, above `r`; and `p.1 ≠ r` is `p.1 < r ∨ r < p.1`
  rw [dirInsert_eq r s hd, List.mem_append, List.mem_cons, List.mem_filter, List.mem_filter,
    decide_eq_true_eq, decide_eq_true_eq, Nat.ne_iff_lt_or_gt, and_or_left, or_left_comm]

theorem sorted_dirInsert (r : Nat) (s : σ) {d : Dir σ} (hd : DirSorted d) :
    DirSorted (dirInsert r s d) := by
  rw [dirInsert_eq r s hd]
  -- below `r` sorted; `r` under all above it, and those sorted; all below under `r` and under all above
  simp only [DirSorted, List.pairwise_append, List.pairwise_cons, List.mem_cons, List.mem_filter,
    decide_eq_true_eq, forall_eq_or_imp]
  exact ⟨hd.filter _, ⟨fun p hp => hp.2, hd.filter _⟩,
    fun p hp => ⟨hp.2, fun q hq => Nat.lt_trans hp.2 hq.2⟩⟩

theorem length_le_dirInsert (r : Nat) (s : σ) (d : Dir σ) : d.length ≤ (dirInsert r s d).length := by
  induction d with
  | nil => exact Nat.zero_le _
  | cons q rest ih =>
    rw [dirInsert]
    split
    · exact Nat.le_succ _
    · split
      · exact Nat.le_refl _
      · exact Nat.succ_le_succ ih

theorem saveCkpt_suffix (keep r : Nat) (s : σ) (d : Dir σ) :
    saveCkpt keep d r s <:+ dirInsert r s d := by
  unfold saveCkpt
  split
  · exact List.suffix_refl _
  · exact List.drop_suffix _ _

theorem length_saveCkpt {keep r : Nat} {s : σ} {d : Dir σ} (hk : 0 < keep) :
    (saveCkpt keep d r s).length = min (dirInsert r s d).length keep := by
  rw [saveCkpt, if_neg (Nat.ne_of_gt hk), List.length_drop, Nat.sub_sub_eq_min]

/-- what the code does with a round below a full directory: the file is written and removed again at once,
the directory (and hence what is loaded) is unchanged — the state just saved cannot be loaded back. -/
theorem C16_ckpt_low_round_dropped (keep : Nat) (hk : 0 < keep) (d : Dir σ) (r : Nat) (s : σ)
    (hfull : d.length = keep) (hlow : ∀ q ∈ d, r < q.1) : saveCkpt keep d r s = d := by
  have hins : dirInsert r s d = (r, s) :: d := by
    cases d with
    | nil => rfl
    | cons q rest => rw [dirInsert, if_pos (hlow q List.mem_cons_self)]
  simp [saveCkpt, Nat.ne_of_gt hk, hins, hfull]

theorem mem_saveCkpt_or_below (keep r : Nat) (s : σ) {d : Dir σ} (hd : DirSorted d) (x : Nat × σ)
    (hx : x ∈ dirInsert r s d) :
    (∃ t, (x.1, t) ∈ saveCkpt keep d r s) ∨
      (0 < keep ∧ (saveCkpt keep d r s).length = keep ∧ ∀ q ∈ saveCkpt keep d r s, x.1 < q.1) := by
  by_cases hk : keep = 0
  · exact Or.inl ⟨x.2, by rwa [saveCkpt, if_pos hk]⟩
  · rw [saveCkpt, if_neg hk]
    have hs := sorted_dirInsert r s hd
    rw [← List.take_append_drop ((dirInsert r s d).length - keep) (dirInsert r s d)] at hx hs
    rcases List.mem_append.mp hx with h | h
    · -- something was dropped, so the listing had more than `keep` entries
      have := List.length_pos_of_mem h
      rw [List.length_take, Nat.lt_min] at this
      refine Or.inr ⟨Nat.pos_of_ne_zero hk, ?_, (List.pairwise_append.mp hs).2.2 x h⟩
      rw [List.length_drop, Nat.sub_sub_self (Nat.le_of_lt (Nat.lt_of_sub_pos this.1))]
    · exact Or.inl ⟨x.2, h⟩

theorem getLast_saveCkpt (keep : Nat) {d : Dir σ} {r : Nat} (s : σ) (hd : DirSorted d)
    (hmax : ∀ q ∈ d, q.1 ≤ r) : (saveCkpt keep d r s).getLast? = some (r, s) := by
  -- nothing is above `r`, so the written file is the last of the listing, and the clean-up keeps the last
  have hnil : d.filter (r < ·.1) = [] :=
    List.filter_eq_nil_iff.mpr fun q hq => by simpa using hmax q hq
  have hlast : (dirInsert r s d).getLast? = some (r, s) := by
    rw [dirInsert_eq r s hd, hnil, List.getLast?_concat]
  rw [saveCkpt]
  split
  · exact hlast
  · have hpos := List.length_pos_of_mem (List.mem_of_getLast? hlast)
    rw [List.getLast?_drop, hlast, if_neg (Nat.not_le.mpr (Nat.sub_lt hpos (Nat.pos_of_ne_zero ‹_›)))]

theorem lastSaved_snoc (h : List (Nat × σ)) (r r' : Nat) (s : σ) :
    lastSaved (h ++ [(r, s)]) r' = if r = r' then some s else lastSaved h r' := by
  simp only [lastSaved, List.reverse_append, List.reverse_singleton, List.singleton_append, List.find?_cons]
  cases hb : r == r' <;> simp_all

theorem runHist_snoc (keep : Nat) (h : List (Nat × σ)) (r : Nat) (s : σ) :
    runHist keep (h ++ [(r, s)]) = saveCkpt keep (runHist keep h) r s := by
  simp [runHist, List.foldl_append]

/-- the invariant of a checkpoint directory produced by any history; `dropped`: a round ever saved is
still on disk, or the directory is full of higher rounds -/
structure CkptInv (keep : Nat) (h : List (Nat × σ)) (d : Dir σ) : Prop where
  sorted : DirSorted d
  size : 0 < keep → d.length ≤ keep
  content : ∀ p ∈ d, lastSaved h p.1 = some p.2
  dropped : ∀ p ∈ h, (∃ s, (p.1, s) ∈ d) ∨ (0 < keep ∧ d.length = keep ∧ ∀ q ∈ d, p.1 < q.1)

theorem ckptInv_step {keep : Nat} {h : List (Nat × σ)} {d : Dir σ} (r : Nat) (s : σ)
    (inv : CkptInv keep h d) : CkptInv keep (h ++ [(r, s)]) (saveCkpt keep d r s) := by
  have hmem := mem_dirInsert r s inv.sorted
  have hsuf := saveCkpt_suffix keep r s d
  have hkeeps := mem_saveCkpt_or_below keep r s inv.sorted
  refine ⟨(sorted_dirInsert r s inv.sorted).sublist hsuf.sublist,
    fun hk => length_saveCkpt hk ▸ Nat.min_le_right _ _, ?_, ?_⟩
  · intro p hp
    rw [lastSaved_snoc]
    rcases (hmem p).mp (hsuf.subset hp) with rfl | ⟨hp, hne⟩
    · simp
    · rw [if_neg (Ne.symm hne), inv.content p hp]
  · -- every round ever saved is still there, or the directory is full of higher rounds
    intro p hp
    by_cases hpr : p.1 = r
    · exact hpr ▸ hkeeps (r, s) ((hmem _).mpr (Or.inl rfl))
    rcases List.mem_append.mp hp with hp | hp
    · rcases inv.dropped p hp with ⟨t, ht⟩ | ⟨hk, hlen, hall⟩
      · exact hkeeps (p.1, t) ((hmem _).mpr (Or.inr ⟨ht, hpr⟩))
      · -- `p` was already dropped: the directory was full of higher rounds, and stays so
        right
        by_cases hlt : r < p.1
        · rw [C16_ckpt_low_round_dropped keep hk d r s hlen fun q hq => Nat.lt_trans hlt (hall q hq)]
          exact ⟨hk, hlen, hall⟩
        · refine ⟨hk, (length_saveCkpt hk).trans (Nat.min_eq_right (hlen ▸ length_le_dirInsert r s d)),
            fun q hq => ?_⟩
          rcases (hmem q).mp (hsuf.subset hq) with rfl | ⟨hq, _⟩
          · exact Nat.lt_of_le_of_ne (Nat.le_of_not_lt hlt) hpr
          · exact hall q hq
    · exact absurd (by rw [List.mem_singleton.mp hp]) hpr

theorem ckptInv_foldl {keep : Nat} {h0 : List (Nat × σ)} {d : Dir σ} (inv : CkptInv keep h0 d)
    (h : List (Nat × σ)) :
    CkptInv keep (h0 ++ h) (h.foldl (fun d p => saveCkpt keep d p.1 p.2) d) := by
  induction h generalizing h0 d with
  | nil => simpa using inv
  | cons p rest ih => simpa using ih (ckptInv_step p.1 p.2 inv)

theorem ckptInv_runHist (keep : Nat) (h : List (Nat × σ)) : CkptInv keep h (runHist keep h) := by
  simpa [runHist] using ckptInv_foldl (keep := keep) (h0 := [])
    ⟨List.Pairwise.nil, fun _ => Nat.zero_le _, nofun, nofun⟩ h

/-- **Checkpoint histories.** After ANY history of `save_checkpoint` calls (any order of round
numbers, rounds saved repeatedly, `keep ≥ 1`): `load_latest_checkpoint` returns a checkpoint; its
round is the highest round on disk; and its state is the state LAST saved under that round. -/
theorem C16_ckpt_latest (keep : Nat) (hk : 0 < keep) (h : List (Nat × σ)) (hne : h ≠ []) :
    ∃ s r, loadLatest (runHist keep h) = some (s, r) ∧
      (r, s) ∈ runHist keep h ∧ (∀ q ∈ runHist keep h, q.1 ≤ r) ∧ lastSaved h r = some s := by
  -- `hk` is not needed: `keep = 0` removes nothing
  have inv := ckptInv_runHist keep h
  -- some round was saved: its file is there, or `keep > 0` files above it are
  obtain ⟨p, hp⟩ := List.exists_mem_of_ne_nil h hne
  have hd : runHist keep h ≠ [] := by
    rcases inv.dropped p hp with ⟨_, ht⟩ | ⟨hpos, hlen, _⟩
    · exact List.ne_nil_of_mem ht
    · exact List.ne_nil_of_length_pos (hlen.symm ▸ hpos)
  obtain ⟨⟨r, s⟩, hl⟩ := Option.isSome_iff_exists.mp (List.getLast?_isSome.mpr hd)
  obtain ⟨hm, hle⟩ := ListAux.getLast?_of_pairwise inv.sorted hl
  exact ⟨s, r, by simp [loadLatest, hl], hm,
    fun q hq => (hle q hq).elim (fun e => e ▸ Nat.le_refl _) Nat.le_of_lt, inv.content (r, s) hm⟩

/-- at most `keep` files, distinct rounds in ascending order, and every surviving file holds the state
last saved under its round — after any history. -/
theorem C16_ckpt_files (keep : Nat) (h : List (Nat × σ)) :
    DirSorted (runHist keep h) ∧ (0 < keep → (runHist keep h).length ≤ keep) ∧
    (∀ r s, loadRound (runHist keep h) r = some s → lastSaved h r = some s) ∧
    (∀ p ∈ runHist keep h, loadRound (runHist keep h) p.1 = some p.2) := by
  have inv := ckptInv_runHist keep h
  refine ⟨inv.sorted, inv.size, fun r s hl => ?_, fun p hp => ?_⟩
  · obtain ⟨p, hf, rfl⟩ := Option.map_eq_some_iff.mp hl
    have hr : p.1 = r := by simpa using List.find?_some hf
    exact hr ▸ inv.content p (List.mem_of_find?_eq_some hf)
  · have hnd : ((runHist keep h).map Prod.fst).Nodup :=
      List.pairwise_map.mpr (inv.sorted.imp Nat.ne_of_lt)
    rw [loadRound, ListAux.find?_of_nodup_map Prod.fst hnd hp fun _ => beq_iff_eq]
    rfl

/-- which rounds survive: a round that was saved at some point and is no longer on disk has been pushed out
by `keep` higher rounds (so the files are the `keep` highest distinct rounds ever saved). -/
theorem C16_ckpt_survivors (keep : Nat) (h : List (Nat × σ)) (p : Nat × σ) (hp : p ∈ h) :
    (∃ s, (p.1, s) ∈ runHist keep h) ∨
    (0 < keep ∧ (runHist keep h).length = keep ∧ ∀ q ∈ runHist keep h, p.1 < q.1) :=
  (ckptInv_runHist keep h).dropped p hp

/-- a save under a round at least as high as everything on disk (the normal case, and the case of saving
the SAME round again with another state) is what `load_latest_checkpoint` returns next. -/
theorem C16_ckpt_save_then_load (keep : Nat) (hk : 0 < keep) (h : List (Nat × σ)) (r : Nat) (s : σ)
    (hmax : ∀ q ∈ runHist keep h, q.1 ≤ r) :
    loadLatest (runHist keep (h ++ [(r, s)])) = some (s, r) := by
  -- `hk` is not needed: `keep = 0` removes nothing
  rw [runHist_snoc, loadLatest, getLast_saveCkpt keep s (ckptInv_runHist keep h).sorted hmax]

end Ckpt

/-- a nested tree: dict of a big-endian int32 matrix, a bytes-object array (with an empty element),
a list holding a float16 scalar, a complex, a 0-d bool array, an empty (0,3) float64 array, and an
empty dict -/
def sampleTree : PyVal :=
  .dict [(.str "x", .ndarray ⟨[2, 1], .int32, true, [[0, 0, 0, 1], [0, 0, 1, 0]]⟩),
         (.bytes [107], .objarr [2] [.bytes [97, 98], .bytes []]),
         (.str "rest", .list [.npscalar .float16 [0, 60], .complex [0,0,0,0,0,0,240,63] [0,0,0,0,0,0,0,64],
                              .ndarray ⟨[], .bool, false, [[1]]⟩, .ndarray ⟨[0, 3], .float64, true, []⟩,
                              .dict [], .int (-5), .none, .list []])]

theorem sampleTree_ok : wf sampleTree = true ∧ supported sampleTree = true := by decide +kernel

example : wf sampleTree = true ∧ supported sampleTree = true := sampleTree_ok
example : roundtrip .repaired sampleTree = .ok (native sampleTree) :=
  C16_roundtrip sampleTree sampleTree_ok.1 sampleTree_ok.2
example : roundtrip .repaired (.ndarray ⟨[2], .int32, true, [[0, 0, 0, 1], [0, 0, 0, 2]]⟩) =
    .ok (.ndarray ⟨[2], .int32, false, [[1, 0, 0, 0], [2, 0, 0, 0]]⟩) := rfl
example : roundtrip .repaired (.ndarray ⟨[1], .complex64, true, [[63, 128, 0, 0, 64, 0, 0, 0]]⟩) =
    .ok (.ndarray ⟨[1], .complex64, false, [[0, 0, 128, 63, 0, 0, 0, 64]]⟩) := rfl
example : (⟨[2], .int32, true, [[0, 0, 0, 1], [0, 0, 0, 2]]⟩ : Nd).wf = true ∧
    (⟨[2], .int32, true, [[0, 0, 0, 1], [0, 0, 0, 2]]⟩ : Nd).values = [[1], [2]] := by decide +kernel
example : ∃ e, roundtrip .repaired (.dict [(.str "a", .list [.int 1, .tuple [.int 2]])]) = .error e :=
  C16_reject _ (by decide) (by decide)
example : roundtrip .repaired (.ndarray ⟨[1], .strN 32, false, [[97, 0, 0, 0]]⟩) = .error .typeError :=
  C16_reject_kinds.2.1 _ (Or.inl ⟨32, rfl⟩)
example : roundtrip .repaired (.dict [(.int 1, .int 2)]) = .error .valueError := rfl
example : ValidExamples 2 (.dict [(.str "x", .ndarray ⟨[2, 1], .int8, false, [[1], [2]]⟩),
                                  (.str "y", .objarr [2] [.bytes [1], .bytes []])]) := by
  refine ⟨by simp, ?_⟩
  intro kv hkv
  simp only [List.mem_cons, List.not_mem_nil, or_false] at hkv
  rcases hkv with rfl | rfl <;> exact ⟨rfl, rfl, rfl, rfl⟩
example : ∃ t, addMany idCodec .repaired []
      [([1], .dict [(.str "x", .ndarray ⟨[2], .int16, true, [[0, 1], [0, 2]]⟩)]),
       ([2], .dict [(.str "x", .ndarray ⟨[0], .int16, true, []⟩)])] = .ok t ∧
    clientSizes t = [([1], 2), ([2], 0)] ∧
    getClient idCodec t [1] = .ok (.dict [(.str "x", .ndarray ⟨[2], .int16, false, [[1, 0], [2, 0]]⟩)]) :=
  ⟨_, rfl, rfl, rfl⟩

example : supported sampleTree = true ∧ roundtrip .repaired sampleTree = .ok (native sampleTree) := by
  have h := C16_roundtrip sampleTree sampleTree_ok.1 sampleTree_ok.2
  exact ⟨(C16_never_altered sampleTree _ sampleTree_ok.1 h).1, h⟩
example : DType.ofName (DType.name .bfloat16) = some .bfloat16 ∧ DType.ofName (DType.name (.strN 32)) = none :=
  ⟨(C16_dtype_name _).1 rfl, (C16_dtype_name _).2 rfl⟩
example : (⟨[1], .complex64, true, [[63, 128, 0, 0, 64, 0, 0, 0]]⟩ : Nd).toNative.values =
    (⟨[1], .complex64, true, [[63, 128, 0, 0, 64, 0, 0, 0]]⟩ : Nd).values :=
  (C16_native_preserves _ (by decide)).2.2.2.1
example : ∃ m, encode .repaired sampleTree = .ok m ∧ decode m = .ok (native sampleTree) :=
  C16_encode_ok sampleTree sampleTree_ok.1 sampleTree_ok.2
example : ∃ e, addOne idCodec .repaired [⟨[1], .nil, 0⟩] ([1], .dict [(.str "x", .ndarray ⟨[0], .int8, false, []⟩)])
    = .error e := C16_sqlite_duplicate _ _ _ _ (by decide)
example : numExamples (.dict [(.str "x", .ndarray ⟨[2, 1], .int8, false, [[1], [2]]⟩),
                              (.str "y", .objarr [2] [.bytes [1], .bytes []])]) = .ok 2 := rfl

example : runHist 2 [(3, "a"), (0, "b"), (3, "c"), (2, "d"), (0, "e"), (4, "f")] = [(3, "c"), (4, "f")] := by
  decide +kernel
example : loadLatest (runHist 1 [(5, "old"), (5, "new")]) = some ("new", 5) :=
  C16_ckpt_save_then_load 1 (by decide) [(5, "old")] 5 "new" (by decide)
example : ∃ s r, loadLatest (runHist 2 [(1, 10), (2, 20), (3, 30), (2, 21), (3, 31), (4, 40)]) = some (s, r) ∧ r = 4 ∧ s = 40 :=
  ⟨40, 4, by decide +kernel, rfl, rfl⟩
example : saveCkpt 2 [(5, "x"), (7, "y")] 3 "z" = [(5, "x"), (7, "y")] :=
  C16_ckpt_low_round_dropped 2 (by decide) _ 3 "z" rfl (by decide)
example : (runHist 2 [(3, 0), (1, 1), (2, 2)]).length ≤ 2 := (C16_ckpt_files 2 _).2.1 (by decide)

end FedjaxVerif.Serialize
