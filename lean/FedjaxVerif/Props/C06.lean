import FedjaxVerif.Model.Masked
import FedjaxVerif.Props.C03
import FedjaxVerif.Props.C07

/-!
# C06 — masked gradients and losses ignore padding and batch geometry

Property theorems about `Model/Masked.lean`.  A batch is a list of rows; a row carries its mask bit,
its per-example loss `ℓ`, its per-example gradient `g` and its domain id.  Rows with `mask = false`
are padding: the theorems quantify over *arbitrary* values in them, over arbitrary positions of the
real rows, over any number of padding rows (including batches with no real row) and over any split of
a dataset into batches.

Everything is over `Rat`, so every per-example loss/gradient is finite.  That hypothesis is forced:
in float arithmetic `0 * NaN = NaN`, see `C06_nonfinite_padding_counterexample` at the end.
-/

namespace FedjaxVerif.Masked
open FedjaxVerif.TreeUtil

/-- the real (unpadded) rows of a masked batch, in order -/
def real (rows : List Row) : List Row := rows.filter (·.mask)

/-- the rows that count in a batch of the average-loss step -/
def Batch.real (b : Batch) : List Row := if b.masked then Masked.real b.rows else b.rows

/-- all real rows of a list of masked batches -/
def allReal (batches : List (List Row)) : List Row := (batches.map real).flatten

/-- all rows that count, over a list of average-loss batches -/
def allRealB (bs : List Batch) : List Row := (bs.map Batch.real).flatten

/-- all real rows of a cohort -/
def cohortReal (clients : List (List (List Row))) : List Row := (clients.map allReal).flatten

/-- rows of domain `j` -/
def ofDomain (j : Nat) (rows : List Row) : List Row := rows.filter fun r => r.dom == j

/-- `Σ ℓ` -/
def sumLoss (rows : List Row) : Rat := (rows.map (·.loss)).sum

/-- `Σ g[k]` -/
def sumGradAt (k : Nat) (rows : List Row) : Rat := (rows.map fun x => x.grad.getD k 0).sum

/-- `s / n`, and `0` for `n = 0`: the mean over `n` examples, `0` (not NaN) without examples -/
def meanOr0 (s : Rat) (n : Nat) : Rat := if n = 0 then 0 else s / n

theorem sum_mask (f : Row → Rat) (rows : List Row) :
    (rows.map fun r => f r * r.m).sum = ((real rows).map f).sum := by
  induction rows with
  | nil => simp [real]
  | cons a rows ih =>
    simp only [real] at ih ⊢
    rw [List.map_cons, List.sum_cons, ih, List.filter_cons]
    cases h : a.mask <;> simp [Row.m, h]

theorem maskSum_eq (rows : List Row) : maskSum rows = ((real rows).length : Rat) := by
  simpa [maskSum] using sum_mask (fun _ => 1) rows

theorem lossDot_eq (rows : List Row) : lossDot rows = sumLoss (real rows) := sum_mask _ rows

theorem gradDotAt_eq (k : Nat) (rows : List Row) : gradDotAt k rows = sumGradAt k (real rows) :=
  sum_mask _ rows

theorem safeDiv_nat (s : Rat) (n : Nat) : safeDiv s (n : Rat) = meanOr0 s n := by
  unfold safeDiv meanOr0
  by_cases h : n = 0
  · simp [h]
  · have : (n : Rat) ≠ 0 := Nat.cast_ne_zero.mpr h
    simp [h, this]

theorem real_real (rows : List Row) : real (real rows) = real rows := by
  simp [real]

theorem real_of_all_true (rows : List Row) (h : ∀ r ∈ rows, r.mask = true) : real rows = rows := by
  simp only [real, List.filter_eq_self]
  exact h

theorem sum_map_flatten {α β : Type*} (g : β → List α) (f : α → Rat) (ls : List β) :
    (((ls.map g).flatten).map f).sum = (ls.map fun l => ((g l).map f).sum).sum := by
  rw [List.map_flatten, List.sum_flatten, List.map_map, List.map_map]
  rfl

theorem length_flatten_cast {α β : Type*} (g : β → List α) (ls : List β) :
    (((ls.map g).flatten).length : Rat) = (ls.map fun l => ((g l).length : Rat)).sum := by
  rw [List.length_flatten, Nat.cast_list_sum, List.map_map, List.map_map]
  rfl

/-! ## one padded batch: `models.grad` / `model_grad` -/

theorem lossMasked_eq (rows : List Row) (ρ : Rat) :
    lossMasked rows ρ = meanOr0 (sumLoss (real rows)) (real rows).length + ρ := by
  rw [lossMasked, lossDot_eq, maskSum_eq, safeDiv_nat]

theorem gradMasked_eq (d : Nat) (rows : List Row) (r : List Rat) :
    gradMasked d rows r = (List.range d).map fun k =>
      meanOr0 (sumGradAt k (real rows)) (real rows).length + r.getD k 0 :=
  List.map_congr_left fun k _ => by rw [gradDotAt_eq, maskSum_eq, safeDiv_nat]

/-- The loss of a padded batch is the mean loss of its real rows plus the regularizer (once); it is
what the unpadded computation (`jnp.mean`) gives on the real rows alone; with no real row it is
`0 + ρ`, not NaN. -/
theorem C06_loss_padding (rows : List Row) (ρ : Rat) :
    lossMasked rows ρ = meanOr0 (sumLoss (real rows)) (real rows).length + ρ ∧
    (real rows ≠ [] → lossUnmasked (real rows) ρ = some (lossMasked rows ρ)) ∧
    (real rows = [] → lossMasked rows ρ = ρ) := by
  refine ⟨lossMasked_eq rows ρ, fun hne => ?_, fun he => ?_⟩
  · have hl : (real rows).length ≠ 0 := fun h => hne (List.length_eq_zero_iff.1 h)
    rw [lossMasked_eq, lossUnmasked, if_neg hl, meanOr0, if_neg hl]
    rfl
  · rw [lossMasked_eq, he]
    exact zero_add ρ

/-- The gradient of a padded batch is, coordinate by coordinate, the mean gradient of its real rows
plus the regularizer's gradient (once); it equals the unpadded computation on the real rows; with no
real row it is the regularizer's gradient alone (loss part `0`, not NaN). -/
theorem C06_grad_padding (d : Nat) (rows : List Row) (r : List Rat) :
    gradMasked d rows r
      = (List.range d).map (fun k =>
          meanOr0 (sumGradAt k (real rows)) (real rows).length + r.getD k 0) ∧
    (real rows ≠ [] → gradUnmasked d (real rows) r = some (gradMasked d rows r)) ∧
    (real rows = [] → gradMasked d rows r = (List.range d).map fun k => r.getD k 0) := by
  refine ⟨gradMasked_eq d rows r, fun hne => ?_, fun he => ?_⟩
  · have hl : (real rows).length ≠ 0 := fun h => hne (List.length_eq_zero_iff.1 h)
    rw [gradMasked_eq, gradUnmasked, if_neg hl]
    simp only [meanOr0, if_neg hl, sumGradAt]
  · rw [gradMasked_eq, he]
    exact List.map_congr_left fun k _ => zero_add _

/-- Gradient and loss depend only on the real rows: content, number and position of the padding rows
are irrelevant. -/
theorem C06_ignores_padding (d : Nat) (rows rows' : List Row) (r : List Rat) (ρ : Rat)
    (h : real rows = real rows') :
    gradMasked d rows r = gradMasked d rows' r ∧ lossMasked rows ρ = lossMasked rows' ρ := by
  rw [gradMasked_eq, gradMasked_eq d rows', lossMasked_eq, lossMasked_eq rows', h]
  exact ⟨rfl, rfl⟩

/-- The order of the real rows does not matter either: batches whose real rows are permutations of
each other have the same gradient and loss. -/
theorem C06_ignores_order (d : Nat) (rows rows' : List Row) (r : List Rat) (ρ : Rat)
    (h : (real rows).Perm (real rows')) :
    gradMasked d rows r = gradMasked d rows' r ∧ lossMasked rows ρ = lossMasked rows' ρ := by
  rw [gradMasked_eq, gradMasked_eq d rows', lossMasked_eq, lossMasked_eq rows']
  have hl : (real rows).length = (real rows').length := h.length_eq
  have hs : sumLoss (real rows) = sumLoss (real rows') := (h.map _).sum_eq
  have hg : ∀ k, sumGradAt k (real rows) = sumGradAt k (real rows') := fun k => (h.map _).sum_eq
  simp only [hl, hs, hg, and_self]

theorem lossStep_eq :
    lossStep = fun st b => (st.1 + sumLoss b.real, st.2 + (b.real.length : Rat)) := by
  funext st b
  unfold lossStep Batch.real
  cases h : b.masked
  · simp [sumLoss]
  · simp [lossDot_eq, maskSum_eq]

theorem foldl_lossStep (bs : List Batch) :
    bs.foldl lossStep (0, 0) = (sumLoss (allRealB bs), ((allRealB bs).length : Rat)) := by
  -- the step adds to two independent sums; each fold is then a sum over the batches, flattened
  rw [lossStep_eq,
    Vec.foldl_pair (fun a (b : Batch) => a + sumLoss b.real) (fun n b => n + (b.real.length : Rat)),
    Vec.foldl_add, Vec.foldl_add, zero_add, zero_add, allRealB, sumLoss, sum_map_flatten,
    length_flatten_cast]
  rfl

/-- `evaluate_average_loss` / `AverageLossEvaluator` / HypCluster's cluster loss over *any* list of
batches (padded or not, any sizes, fully padded batches anywhere) is `(Σℓ)/N + ρ` over the
real examples, with the regularizer added exactly once, and `0 + ρ` when there is no real example. -/
theorem C06_avg_loss_geometry (bs : List Batch) (ρ : Rat) :
    avgLoss bs ρ = meanOr0 (sumLoss (allRealB bs)) (allRealB bs).length + ρ := by
  rw [avgLoss, foldl_lossStep, safeDiv_nat]

/-- Two batchings with the same real examples (in any order) have the same average loss. -/
theorem C06_avg_loss_perm (bs bs' : List Batch) (ρ : Rat) (h : (allRealB bs).Perm (allRealB bs')) :
    avgLoss bs ρ = avgLoss bs' ρ := by
  rw [C06_avg_loss_geometry, C06_avg_loss_geometry, h.length_eq]
  have : sumLoss (allRealB bs) = sumLoss (allRealB bs') := (h.map _).sum_eq
  rw [this]

/-- No real example at all: the average loss is `0` plus the regularizer, not NaN. -/
theorem C06_avg_loss_empty (bs : List Batch) (ρ : Rat) (h : allRealB bs = []) : avgLoss bs ρ = ρ := by
  rw [C06_avg_loss_geometry, h]
  exact zero_add ρ

theorem meanOr0_mul_length {α : Type} (f : α → Rat) (l : List α) :
    meanOr0 (l.map f).sum l.length * (l.length : Rat) = (l.map f).sum := by
  cases l with
  | nil => exact zero_mul _
  | cons a l => exact div_mul_cancel₀ _ (Nat.cast_ne_zero.2 (Nat.succ_ne_zero _))

/-- coordinate `k` of what one batch adds to `grads_sum`: the weight cancels the division -/
theorem coord_weighted_gradMasked (d : Nat) (r : List Rat) (rows : List Row) {k : Nat} (hk : k < d) :
    coord k (treeWeight (gradMasked d rows r) (maskSum rows))
      = sumGradAt k (real rows) + ((real rows).length : Rat) * r.getD k 0 := by
  rw [coord_treeWeight, gradMasked_eq, coord_range_map _ hk, maskSum_eq, add_mul,
    sumGradAt, meanOr0_mul_length, mul_comm (r.getD k 0)]

/-- One client's output of `create_grads_for_each_client`: `(Σ g + N·r, N)` over its real rows —
whatever the padded batch size and bucket count were. -/
theorem C06_mime_client (d : Nat) (r : List Rat) (batches : List (List Row)) :
    mimeClient d r batches
      = ((List.range d).map (fun k => sumGradAt k (allReal batches)
            + ((allReal batches).length : Rat) * r.getD k 0),
         ((allReal batches).length : Rat)) := by
  -- the step adds the batch's term on the left of the accumulator; `tree_add` commutes
  have hstep : mimeStep d r = fun st rows =>
      (treeAdd st.1 (treeWeight (gradMasked d rows r) (maskSum rows)), st.2 + maskSum rows) :=
    funext fun st => funext fun rows => congrArg (·, _) (List.zipWith_comm_of_comm add_comm)
  rw [mimeClient, hstep,
    Vec.foldl_pair (fun a (rows : List Row) => treeAdd a (treeWeight (gradMasked d rows r) (maskSum rows)))
      (fun w rows => w + maskSum rows), Vec.foldl_add, zero_add,
    foldl_treeAdd (fun rows : List Row => treeWeight (gradMasked d rows r) (maskSum rows))
      (fun b _ => by rw [treeWeight_length, gradMasked, List.length_map, List.length_range])
      List.length_replicate]
  refine Prod.ext (List.map_congr_left fun k hk => ?_) ?_
  · rw [List.map_congr_left fun b _ => coord_weighted_gradMasked d r b (List.mem_range.1 hk),
      List.sum_map_add, List.sum_map_mul_right, allReal, sumGradAt, sum_map_flatten,
      length_flatten_cast, coord_replicate_zero, zero_add]
    rfl
  · rw [List.map_congr_left fun b _ => maskSum_eq b, allReal, length_flatten_cast]

/-- `(S + n·r) / n` under the guard of `tree_inverse_weight` is `S / n + r` under the guard `n ≠ 0` -/
theorem inverseWeight_add_mul_nat (S : Rat) (n : Nat) (r : Rat) :
    (if 0 < (n : Rat) then (S + n * r) / n else 0) = if n = 0 then 0 else S / n + r := by
  rcases Nat.eq_zero_or_pos n with rfl | h0
  · simp
  · have hpos : (0 : Rat) < n := Nat.cast_pos.mpr h0
    rw [if_pos hpos, if_neg h0.ne', add_div, mul_div_cancel_left₀ _ hpos.ne']

/-- The server's full-batch gradient over a cohort is `(Σ g)/N + r` over all real examples of all
clients — the example-weighted combination, regularizer once — for every padded batching of every
client (fully padded batches and empty clients contribute weight `0`); and `0`, not NaN, when the
cohort has no real example (`r` included: `tree_inverse_weight` zeroes the whole sum). -/
theorem C06_full_grad_geometry (d : Nat) (r : List Rat) (clients : List (List (List Row)))
    (hne : clients ≠ []) :
    fullGrad d r clients
      = some ((List.range d).map fun k =>
          if (cohortReal clients).length = 0 then 0
          else sumGradAt k (cohortReal clients) / ((cohortReal clients).length : Rat) + r.getD k 0) := by
  rw [fullGrad, C07_sum_formula (d + 1) _ (mt List.map_eq_nil_iff.1 hne)
    (List.forall_mem_map.2 fun c _ => by
      rw [C06_mime_client, List.length_cons, List.length_map, List.length_range]),
    List.range_succ_eq_map]
  -- coordinate `0` of the summed tuples is the example count, coordinate `k + 1` is coordinate `k`
  -- of the gradient sums
  simp only [List.map_cons, List.map_map, Function.comp_def, coord_cons_zero, coord_cons_succ,
    C06_mime_client]
  -- `treeInverseWeight g n` unfolds to `g.map (· * inverseWeight n)`
  refine congrArg some (List.map_map.trans (List.map_congr_left fun k hk => ?_))
  rw [Function.comp_apply, mul_inverseWeight,
    List.map_congr_left fun c _ => coord_range_map _ (List.mem_range.1 hk), List.sum_map_add,
    List.sum_map_mul_right, ← length_flatten_cast allReal]
  simp only [sumGradAt, ← sum_map_flatten allReal]
  exact inverseWeight_add_mul_nat _ _ _

theorem segmentSum_length (D : Nat) (rows : List Row) (f : Row → Rat) :
    (segmentSum D rows f).length = D := by simp [segmentSum]

theorem real_filter_flatten (p : Row → Bool) (batches : List (List Row)) :
    real (batches.flatten.filter p) = (allReal batches).filter p := by
  rw [real, List.filter_comm, List.filter_flatten]
  rfl

theorem foldl_segmentSum (D : Nat) (f : Row → Rat) (batches : List (List Row)) :
    batches.foldl (fun a rows => treeAdd a (segmentSum D rows f)) (List.replicate D 0)
      = segmentSum D batches.flatten f := by
  rw [foldl_treeAdd _ (fun b _ => segmentSum_length D b f) List.length_replicate]
  refine List.map_congr_left fun j hj => ?_
  rw [coord_replicate_zero, zero_add, List.filter_flatten, sum_map_flatten]
  exact congrArg List.sum (List.map_congr_left fun b _ => coord_range_map _ (List.mem_range.1 hj))

/-- Per-domain loss sums and example counts of a client depend only on its real examples: for every
padded batching, entry `j` is `Σ ℓ` resp. the number of real examples with `domain_id = j`. -/
theorem C06_domain_geometry (D : Nat) (batches : List (List Row)) :
    domainSums D batches
      = ((List.range D).map (fun j => sumLoss (ofDomain j (allReal batches))),
         (List.range D).map (fun j => ((ofDomain j (allReal batches)).length : Rat))) := by
  refine (Vec.foldl_pair (fun a rows => treeAdd a (segmentSum D rows fun r => r.loss * r.m))
    (fun a rows => treeAdd a (segmentSum D rows Row.m)) batches _ _).trans ?_
  rw [foldl_segmentSum, foldl_segmentSum]
  refine congrArg₂ Prod.mk (List.map_congr_left fun j _ => ?_) (List.map_congr_left fun j _ => ?_)
  · rw [sum_mask, real_filter_flatten]
    rfl
  · rw [← maskSum, maskSum_eq, real_filter_flatten]
    rfl

/-- Two batchings of a client with the same real examples, in any order, give the same per-domain
sums and counts. -/
theorem C06_domain_perm (D : Nat) (batches batches' : List (List Row))
    (h : (allReal batches).Perm (allReal batches')) :
    domainSums D batches = domainSums D batches' := by
  rw [C06_domain_geometry, C06_domain_geometry]
  exact congrArg₂ Prod.mk (List.map_congr_left fun j _ => ((h.filter _).map _).sum_eq)
    (List.map_congr_left fun j _ => congrArg Nat.cast (h.filter _).length_eq)

/-! ## tie to the padded batching of C03: independence of `(batch_size, num_batch_size_buckets)` -/

/-- the rows of a padded batch `(examples, mask)` of `PaddedBatchView`, given the per-example
quantities `f e` (evaluated on padding rows as well — there they are arbitrary) -/
def rowsOf {α} (f : α → Row) (p : List α × List Bool) : List Row :=
  List.zipWith (fun e m => { f e with mask := m }) p.1 p.2

theorem real_rowsOf {α} (f : α → Row) (p : List α × List Bool) :
    real (rowsOf f p) = (Batching.unpadBatch p).map fun e => { f e with mask := true } := by
  obtain ⟨es, ms⟩ := p
  induction es generalizing ms with
  | nil => rfl
  | cons e es ih =>
    cases ms with
    | nil => rfl
    | cons m ms =>
      cases m
      · exact ih ms
      · exact congrArg (_ :: ·) (ih ms)

/-- For every batch size and bucket count, the real rows of `padded_batch` are exactly the
dataset's examples, each once, in order: so every quantity above, being a function of the real rows,
is independent of `(batch_size, num_batch_size_buckets)`. -/
theorem C06_padded_view_real {α} (f : α → Row) (bs B : Nat) (hbs : 0 < bs) (hB : 0 < B) (z : α)
    (xs : List α) :
    ∃ v, Batching.paddedView bs B z xs = some v ∧
      allReal (v.map (rowsOf f)) = xs.map fun e => { f e with mask := true } := by
  obtain ⟨v, hv, hu⟩ := Batching.C03_padded_unpad bs B hbs hB z xs
  refine ⟨v, hv, ?_⟩
  rw [← hu, allReal, Batching.unpad, List.map_map, List.flatMap_def, List.map_flatten, List.map_map]
  exact congrArg List.flatten (List.map_congr_left fun p _ => real_rowsOf f p)

/-- Average loss, Mime client output and per-domain sums computed from `padded_batch(bs, B)` and from
`padded_batch(bs', B')` of the same dataset coincide. -/
theorem C06_batch_size_independent {α} (f : α → Row) (bs B bs' B' : Nat) (hbs : 0 < bs) (hB : 0 < B)
    (hbs' : 0 < bs') (hB' : 0 < B') (z : α) (xs : List α) (ρ : Rat) (d D : Nat) (r : List Rat) :
    ∃ v v', Batching.paddedView bs B z xs = some v ∧ Batching.paddedView bs' B' z xs = some v' ∧
      avgLoss (v.map fun p => ⟨true, rowsOf f p⟩) ρ = avgLoss (v'.map fun p => ⟨true, rowsOf f p⟩) ρ ∧
      mimeClient d r (v.map (rowsOf f)) = mimeClient d r (v'.map (rowsOf f)) ∧
      domainSums D (v.map (rowsOf f)) = domainSums D (v'.map (rowsOf f)) := by
  obtain ⟨v, hv, h1⟩ := C06_padded_view_real f bs B hbs hB z xs
  obtain ⟨v', hv', h2⟩ := C06_padded_view_real f bs' B' hbs' hB' z xs
  refine ⟨v, v', hv, hv', ?_, ?_, ?_⟩
  · have e : ∀ w : List (List α × List Bool),
        allRealB (w.map fun p => (⟨true, rowsOf f p⟩ : Batch)) = allReal (w.map (rowsOf f)) := by
      intro w
      simp [allRealB, allReal, Batch.real, List.map_map, Function.comp_def]
    rw [C06_avg_loss_geometry, C06_avg_loss_geometry, e, e, h1, h2]
  · rw [C06_mime_client, C06_mime_client, h1, h2]
  · rw [C06_domain_geometry, C06_domain_geometry, h1, h2]

/-! ## the finiteness hypothesis is forced (DESIGN §6 row 20, known finding)

`Row.loss`/`Row.grad` are rationals, i.e. finite.  In float arithmetic the code multiplies *every*
row's value by its mask bit, and `0 * NaN = NaN`, `0 * ±Inf = NaN`: a per-example gradient that is
non-finite on a padding row (e.g. `log x` on an all-zero row) poisons `Σ maskᵢ·gᵢ`.  The following
float-faithful variant of `gradDotAt` (value `none` = non-finite) shows the gap. -/

/-- a row whose per-example gradient may be non-finite (`none`) -/
structure FRow where
  mask : Bool
  grad : Option (List Rat)

/-- float-faithful `Σ maskᵢ · gᵢ[k]`: a non-finite term makes the sum non-finite, masked or not -/
def gradDotAtF (k : Nat) (rows : List FRow) : Option Rat :=
  rows.foldl (fun acc r => match acc, r.grad with
    | some a, some g => some (a + g.getD k 0 * (if r.mask then 1 else 0))
    | _, _ => none) (some 0)

/-- what the property demands: only the real rows count -/
def gradDotAtSpec (k : Nat) (rows : List FRow) : Option Rat :=
  (rows.filter (·.mask)).foldl (fun acc r => match acc, r.grad with
    | some a, some g => some (a + g.getD k 0)
    | _, _ => none) (some 0)

/-- A padded batch whose real rows are all finite but whose padding row is not: the code's sum is
non-finite although the property's value is finite. -/
theorem C06_nonfinite_padding_counterexample :
    ∃ rows : List FRow, (∀ r ∈ rows, r.mask = true → r.grad.isSome) ∧
      gradDotAtF 0 rows = none ∧ gradDotAtSpec 0 rows = some 1 :=
  ⟨[⟨true, some [1]⟩, ⟨false, none⟩], by decide, by decide +kernel, by decide +kernel⟩

/-- With every row finite the float-faithful sum is the model's `gradDotAt`. -/
theorem C06_finite_rows_agree (k : Nat) (rows : List Row) :
    gradDotAtF k (rows.map fun r => ⟨r.mask, some r.grad⟩) = some (gradDotAt k rows) := by
  -- on finite rows the `Option` fold is `some` of the plain running sum
  rw [gradDotAtF, List.foldl_map, gradDotAt, ← zero_add (List.sum _), ← Vec.foldl_add]
  exact List.foldl_hom some fun _ _ => rfl

example : gradMasked 2 [⟨true, 3, [1, 2], 0⟩, ⟨false, 100, [50, 60], 0⟩, ⟨true, 5, [3, 4], 1⟩] [1/2, 0]
    = [5/2, 3] := by
  decide +kernel
example : real [⟨true, 3, [1, 2], 0⟩, ⟨false, 100, [50, 60], 0⟩, ⟨true, 5, [3, 4], 1⟩]
    = [⟨true, 3, [1, 2], 0⟩, ⟨true, 5, [3, 4], 1⟩] := rfl
example : gradMasked 2 [⟨false, 100, [50, 60], 0⟩] [1/2, 0] = [1/2, 0] := by
  decide +kernel
example : avgLoss [⟨true, [⟨true, 3, [], 0⟩, ⟨false, 100, [], 0⟩]⟩, ⟨false, [⟨true, 5, [], 0⟩]⟩] (1/4)
    = 17/4 := by
  decide +kernel
example : fullGrad 1 [1/2] [[[⟨true, 3, [1], 0⟩, ⟨false, 9, [9], 0⟩], [⟨false, 9, [9], 0⟩]], [[⟨true, 5, [3], 0⟩]]]
    = some [5/2] := by
  decide +kernel
example : domainSums 2 [[⟨true, 3, [], 0⟩, ⟨false, 100, [], 0⟩], [⟨true, 5, [], 1⟩, ⟨true, 7, [], 0⟩]]
    = ([10, 5], [2, 1]) := by
  decide +kernel

example : lossMasked [⟨true, 3, [], 0⟩, ⟨false, 100, [], 0⟩, ⟨true, 5, [], 0⟩] (1/4) = 17/4 := by
  decide +kernel
example : gradMasked 1 [⟨true, 3, [1], 0⟩, ⟨false, 100, [50], 0⟩] [1/2]
    = gradMasked 1 [⟨false, 7, [7], 2⟩, ⟨false, 8, [8], 1⟩, ⟨true, 3, [1], 0⟩] [1/2] :=
  (C06_ignores_padding 1 _ _ [1/2] 0 (by rfl)).1
example : lossMasked [⟨true, 3, [1], 0⟩, ⟨false, 100, [50], 0⟩, ⟨true, 5, [2], 0⟩] 1
    = lossMasked [⟨true, 5, [2], 0⟩, ⟨true, 3, [1], 0⟩] 1 :=
  (C06_ignores_order 1 _ _ [] 1 (by exact .swap _ _ _)).2
example : avgLoss [⟨true, [⟨true, 3, [], 0⟩, ⟨false, 9, [], 0⟩]⟩, ⟨true, [⟨true, 5, [], 0⟩]⟩] 1
    = avgLoss [⟨false, [⟨true, 5, [], 0⟩, ⟨true, 3, [], 0⟩]⟩] 1 :=
  C06_avg_loss_perm _ _ 1 (.swap _ _ _)
example : avgLoss [⟨true, [⟨false, 9, [], 0⟩]⟩, ⟨true, []⟩] (1/4) = 1/4 :=
  C06_avg_loss_empty _ _ rfl
example : mimeClient 1 [1/2] [[⟨true, 3, [1], 0⟩, ⟨false, 9, [9], 0⟩], [⟨false, 9, [9], 0⟩], [⟨true, 5, [3], 0⟩]]
    = ([5], 2) := by
  decide +kernel
example : domainSums 2 [[⟨true, 3, [], 0⟩, ⟨false, 100, [], 0⟩], [⟨true, 5, [], 1⟩]]
    = domainSums 2 [[⟨true, 5, [], 1⟩, ⟨true, 3, [], 0⟩]] :=
  C06_domain_perm 2 _ _ (.swap _ _ _)
example : ∃ v, Batching.paddedView 2 1 (0 : Rat) [1, 2, 3] = some v ∧
    allReal (v.map (rowsOf fun e => ⟨true, e, [e], 0⟩))
      = [1, 2, 3].map fun e => { (⟨true, e, [e], 0⟩ : Row) with mask := true } :=
  C06_padded_view_real _ 2 1 (by decide) (by decide) 0 [1, 2, 3]
example : ∃ v v', Batching.paddedView 2 1 (0 : Rat) [1, 2, 3] = some v ∧
    Batching.paddedView 3 2 (0 : Rat) [1, 2, 3] = some v' ∧
    avgLoss (v.map fun p => ⟨true, rowsOf (fun e => ⟨true, e, [e], 0⟩) p⟩) 1
      = avgLoss (v'.map fun p => ⟨true, rowsOf (fun e => ⟨true, e, [e], 0⟩) p⟩) 1 ∧
    mimeClient 1 [1] (v.map (rowsOf fun e => ⟨true, e, [e], 0⟩))
      = mimeClient 1 [1] (v'.map (rowsOf fun e => ⟨true, e, [e], 0⟩)) ∧
    domainSums 2 (v.map (rowsOf fun e => ⟨true, e, [e], 0⟩))
      = domainSums 2 (v'.map (rowsOf fun e => ⟨true, e, [e], 0⟩)) :=
  C06_batch_size_independent _ 2 1 3 2 (by decide) (by decide) (by decide) (by decide) 0 [1, 2, 3] 1 1 2 [1]
example : gradDotAtF 0 (([⟨true, 3, [1], 0⟩, ⟨false, 9, [9], 0⟩] : List Row).map fun r => ⟨r.mask, some r.grad⟩)
    = some (gradDotAt 0 [⟨true, 3, [1], 0⟩, ⟨false, 9, [9], 0⟩]) := C06_finite_rows_agree 0 _

end FedjaxVerif.Masked
