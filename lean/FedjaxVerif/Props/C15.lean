import FedjaxVerif.Model.Centralised
import FedjaxVerif.Props.C03
import FedjaxVerif.Lemmas.Blocks
import FedjaxVerif.Lemmas.BufferedShuffle

/-!
# C15 — centralised streams over many clients neither lose nor duplicate

Property theorems about `Model/Centralised.lean`.  Padded batching over many clients is a fold of
`stepDataset`; everything about it is read off one invariant of that fold (`MInv`: yielded batches
are full, yielded ++ buffered rows = consumed rows) and the normal form of the final padded batch
(`finish_form`).  Buffered shuffling only ever exchanges two buffer positions
(`Lemmas/BufferedShuffle.lean`), so every pass is a permutation, and a stream of passes is a stream
of equal-length blocks (`Lemmas/Blocks.lean`).  A `RepeatableIterator` is followed one whole pass at
a time (`RepIter.pass_spec`).
-/

namespace FedjaxVerif.Centralised
open FedjaxVerif.Batching

/-! ## padded_batch_client_datasets -/

/-- `emitFull` emits whole `bs`-chunks of `xs.drop start`; `r.2` is where it stops. -/
theorem emitFull_spec {α} (bs : Nat) (hbs : 0 < bs) (xs : List α) :
    ∀ fuel start, xs.length ≤ start + fuel * bs → start ≤ xs.length →
      let r := emitFull bs xs fuel start
      r.1.flatten ++ xs.drop r.2 = xs.drop start ∧ (∀ b ∈ r.1, b.length = bs) ∧
      start ≤ r.2 ∧ r.2 ≤ xs.length ∧ xs.length ≤ r.2 + bs := by
  -- `hbs` is not needed: for `bs = 0` the fuel bound says `start = xs.length`, nothing is emitted
  intro fuel start h hs
  induction fuel generalizing start with
  | zero =>
    rw [Nat.zero_mul, Nat.add_zero] at h
    exact ⟨rfl, List.forall_mem_nil _, Nat.le_refl _, hs, Nat.le_trans h (Nat.le_add_right ..)⟩
  | succ fuel ih =>
    rw [emitFull]
    split
    · rename_i hc
      rw [Nat.succ_mul, Nat.add_comm (fuel * bs), ← Nat.add_assoc] at h
      obtain ⟨h1, h2, h3, h4, h5⟩ := ih (start + bs) h (Nat.le_of_lt hc)
      refine ⟨?_, List.forall_mem_cons.mpr ⟨?_, h2⟩, Nat.le_trans (Nat.le_add_right ..) h3, h4, h5⟩
      · rw [List.flatten_cons, List.append_assoc, h1, ← List.drop_drop, List.take_append_drop]
      · rw [List.length_take, List.length_drop]
        exact Nat.min_eq_left (Nat.le_sub_of_add_le' (Nat.le_of_lt hc))
    · exact ⟨rfl, List.forall_mem_nil _, Nat.le_refl _, hs, Nat.le_of_not_lt ‹_›⟩

/-- the tail of `stepDataset`: whole batches of `xs` from `start` on, what is left is buffered -/
def emitRest {α} (bs : Nat) (out1 : List (List α)) (xs : List α) (start : Nat) : MState α :=
  let r := emitFull bs xs (xs.length + 1) start
  if r.2 < xs.length then { buf := [xs.drop r.2], bufSize := xs.length - r.2, out := out1 ++ r.1 }
  else { buf := [], bufSize := 0, out := out1 ++ r.1 }

theorem stepDataset_eq {α} (bs : Nat) (st : MState α) (xs : List α) :
    stepDataset bs st xs =
      if st.bufSize + xs.length < bs then
        { st with buf := st.buf ++ [xs], bufSize := st.bufSize + xs.length }
      else if st.buf.isEmpty then emitRest bs st.out xs 0
      else emitRest bs (st.out ++ [(st.buf ++ [xs.take (bs - st.bufSize)]).flatten]) xs
        (bs - st.bufSize) := by
  rw [stepDataset]
  cases st.buf.isEmpty <;> rfl

/-- The loop invariant of `padded_batch_client_datasets` after the datasets `consumed`:
`buf_size` is the number of buffered rows and is **at most** `bs` (not `<` as the source comment
says), batches yielded so far are full, yielded ++ buffered rows = consumed rows in order, and
once a dataset has been consumed something has been yielded or buffered. -/
structure MInv {α} (bs : Nat) (st : MState α) (consumed : List (List α)) : Prop where
  size : st.bufSize = st.buf.flatten.length
  le : st.bufSize ≤ bs
  rows : st.out.flatten ++ st.buf.flatten = consumed.flatten
  full : ∀ b ∈ st.out, b.length = bs
  consumed_nil : st.out = [] → st.buf = [] → consumed = []

theorem emitRest_spec {α} {bs : Nat} (hbs : 0 < bs) {out1 : List (List α)} {xs : List α}
    {start : Nat} (hs : start ≤ xs.length) (hall : ∀ b ∈ out1, b.length = bs)
    (hne : out1 ≠ [] ∨ start < xs.length) {c : List (List α)}
    (hc : out1.flatten ++ xs.drop start = c.flatten) : MInv bs (emitRest bs out1 xs start) c := by
  obtain ⟨e1, e2, _, _, e5⟩ := emitFull_spec bs hbs xs (xs.length + 1) start
    (Nat.le_trans (Nat.le_succ _)
      (Nat.le_trans (Nat.le_mul_of_pos_right _ hbs) (Nat.le_add_left ..))) hs
  rw [emitRest]
  generalize emitFull bs xs (xs.length + 1) start = r at *
  have hall' := List.forall_mem_append.mpr ⟨hall, e2⟩
  rw [← e1, ← List.append_assoc, ← List.flatten_append] at hc
  split
  · -- the fields of `MInv` in order: `size`, `le`, `rows`, `full`, `consumed_nil`
    exact ⟨by rw [List.flatten_singleton, List.length_drop],
      Nat.sub_le_of_le_add (Nat.add_comm .. ▸ e5), by rw [← hc, List.flatten_singleton], hall',
      nofun⟩
  · rename_i hr
    have hdrop := List.drop_of_length_le (Nat.le_of_not_lt hr)
    refine ⟨rfl, Nat.zero_le _, ?_, hall', fun h0 _ => ?_⟩
    · rw [← hc, hdrop]
      rfl
    · -- nothing yielded or buffered: then there was no row from `start` on, and `out1 ≠ []`
      obtain ⟨h1, h2⟩ := List.append_eq_nil_iff.mp h0
      rw [h2, hdrop] at e1
      exact hne.elim (absurd h1) fun h => absurd (List.drop_eq_nil_iff.mp e1.symm) (Nat.not_le.mpr h)

theorem MInv_step {α} {bs : Nat} (hbs : 0 < bs) {st : MState α} {c : List (List α)} (xs : List α)
    (h : MInv bs st c) : MInv bs (stepDataset bs st xs) (c ++ [xs]) := by
  have hc : (c ++ [xs]).flatten = st.out.flatten ++ st.buf.flatten ++ xs := by
    rw [List.flatten_concat, h.rows]
  rw [stepDataset_eq]
  by_cases hfit : st.bufSize + xs.length < bs
  · rw [if_pos hfit]
    refine ⟨?_, Nat.le_of_lt hfit, ?_, h.full, fun _ h => absurd h (List.concat_ne_nil _ _)⟩
    · rw [List.flatten_concat, List.length_append, h.size]
    · rw [hc, List.flatten_concat, List.append_assoc]
  · rw [if_neg hfit]
    have hk : bs - st.bufSize ≤ xs.length :=
      Nat.sub_le_of_le_add (Nat.add_comm .. ▸ Nat.le_of_not_lt hfit)
    by_cases hb : st.buf.isEmpty
    · rw [if_pos hb]
      have hsize := h.size
      rw [List.isEmpty_iff.mp hb] at hsize hc
      refine emitRest_spec hbs (Nat.zero_le _) h.full (Or.inr ?_) ?_
      · exact Nat.pos_of_ne_zero fun h0 => hfit (by rw [hsize, h0]; exact hbs)
      · rw [hc, List.flatten_nil, List.append_nil, List.drop_zero]
    · -- the buffered rows and the first `bs - buf_size` rows of `xs` make a full batch
      rw [if_neg hb]
      refine emitRest_spec hbs hk
        (List.forall_mem_append.mpr ⟨h.full, List.forall_mem_singleton.mpr ?_⟩)
        (Or.inl (List.concat_ne_nil _ _)) ?_
      · rw [List.flatten_concat, List.length_append, List.length_take, ← h.size,
          Nat.min_eq_left hk, Nat.add_sub_cancel' h.le]
      · rw [hc, List.flatten_concat, List.flatten_concat, List.append_assoc, List.append_assoc,
          List.take_append_drop, List.append_assoc]

theorem MInv_fold {α} {bs : Nat} (hbs : 0 < bs) (dsets : List (List α)) {st : MState α}
    {c : List (List α)} (h : MInv bs st c) :
    MInv bs (dsets.foldl (stepDataset bs) st) (c ++ dsets) := by
  induction dsets generalizing st c with
  | nil => rwa [List.append_nil]
  | cons xs rest ih =>
    rw [List.append_cons]
    exact ih (MInv_step hbs xs h)

/-- normal form of the final padded batch: the buffered rows, then `z` rows up to the bucket size -/
def lastBatch {α} (bs B : Nat) (z : α) (rest : List α) : List α × List Bool :=
  (rest ++ List.replicate (pickFinal rest.length bs B - rest.length) z,
   List.replicate rest.length true ++ List.replicate (pickFinal rest.length bs B - rest.length) false)

def fullBatches {α} (bs : Nat) (out : List (List α)) : List (List α × List Bool) :=
  out.map fun b => (b, List.replicate bs true)

theorem finish_form {α} {bs : Nat} (B : Nat) (hbs : 0 < bs) (hB : 0 < B) (z : α) {st : MState α}
    {c : List (List α)} (h : MInv bs st c) :
    finish bs B z st = some (fullBatches bs st.out ++
      (if st.buf.isEmpty then [] else [lastBatch bs B z st.buf.flatten])) := by
  rw [finish]
  cases st.buf.isEmpty
  · rw [h.size, padTo_eq z (le_pickFinal_self _ bs B hbs hB (h.size ▸ h.le))]
    rfl
  · exact congrArg some (List.append_nil _).symm

theorem unpad_full {α} {bs : Nat} {out : List (List α)} (h : ∀ b ∈ out, b.length = bs) :
    unpad (fullBatches bs out) = out.flatten := by
  rw [unpad, fullBatches, List.flatMap_map, ← List.flatMap_id, List.flatMap_def, List.flatMap_def]
  refine congrArg _ (List.map_congr_left fun b hb => ?_)
  have := unpadBatch_prefix b [] 0
  rwa [List.append_nil, List.replicate_zero, List.append_nil, h b hb] at this

theorem unpad_tail {α} (bs B : Nat) (z : α) (buf : List (List α)) :
    unpad (if buf.isEmpty then [] else [lastBatch bs B z buf.flatten]) = buf.flatten := by
  cases buf with
  | nil => rfl
  | cons p ps => exact (List.append_nil _).trans (unpadBatch_prefix ..)

/-- state after the whole `for` loop -/
def finalState {α} (bs : Nat) (dsets : List (List α)) : MState α :=
  dsets.foldl (stepDataset bs) MState.init

theorem MInv_final {α} {bs : Nat} (hbs : 0 < bs) (dsets : List (List α)) :
    MInv bs (finalState bs dsets) dsets :=
  MInv_fold hbs dsets (c := []) ⟨rfl, Nat.zero_le _, rfl, List.forall_mem_nil _, fun _ _ => rfl⟩

/-- The carry-over buffer never holds more than `bs` rows and `buf_size` is its row count — after
any number of clients of any sizes.  (The source comment claims `<`; `≤` is tight, see the
`example` at the end.) -/
theorem C15_buf_invariant {α} (bs : Nat) (hbs : 0 < bs) (dsets : List (List α)) :
    (finalState bs dsets).bufSize = (finalState bs dsets).buf.flatten.length ∧
    (finalState bs dsets).bufSize ≤ bs ∧
    (∀ b ∈ (finalState bs dsets).out, b.length = bs) :=
  let h := MInv_final hbs dsets
  ⟨h.size, h.le, h.full⟩

/-- **Main clause.** Removing the padded rows gives exactly the concatenation of the datasets in
client order and example order (nothing lost, nothing duplicated) — for every mix of sizes,
including empty clients; and `pad_examples` never raises. -/
theorem C15_multi_concat {α} (bs B : Nat) (hbs : 0 < bs) (hB : 0 < B) (z : α)
    (dsets : List (List α)) :
    ∃ v, multiBatch bs B z dsets = some v ∧ unpad v = dsets.flatten := by
  have h := MInv_final hbs dsets
  have hform := finish_form B hbs hB z h
  -- `multiBatch bs B z dsets` unfolds to `finish bs B z (finalState bs dsets)`
  refine ⟨_, hform, ?_⟩
  rw [unpad, List.flatMap_append, ← unpad, ← unpad, unpad_full h.full, unpad_tail, h.rows]

/-- Client boundaries are invisible in the example stream: two cohorts whose datasets concatenate to the
same example sequence (clients split, merged, or empty clients inserted anywhere) give the same stream
after removing the padded rows. -/
theorem C15_multi_regroup {α} (bs B : Nat) (hbs : 0 < bs) (hB : 0 < B) (z : α)
    (dsets dsets' : List (List α)) (h : dsets.flatten = dsets'.flatten) :
    ∃ v v', multiBatch bs B z dsets = some v ∧ multiBatch bs B z dsets' = some v' ∧
      unpad v = unpad v' := by
  obtain ⟨v, hv, hu⟩ := C15_multi_concat bs B hbs hB z dsets
  obtain ⟨v', hv', hu'⟩ := C15_multi_concat bs B hbs hB z dsets'
  exact ⟨v, v', hv, hv', by rw [hu, hu', h]⟩

/-- Conservation of examples: the number of real (unpadded) rows in the stream is the sum of the client
sizes. -/
theorem C15_multi_count {α} (bs B : Nat) (hbs : 0 < bs) (hB : 0 < B) (z : α)
    (dsets : List (List α)) :
    ∃ v, multiBatch bs B z dsets = some v ∧ (unpad v).length = (dsets.map List.length).sum := by
  obtain ⟨v, hv, hu⟩ := C15_multi_concat bs B hbs hB z dsets
  exact ⟨v, hv, by rw [hu, List.length_flatten]⟩

/-- Shape of the stream: full batches of exactly `bs` real rows with the all-true mask, then at
most one final batch holding the `r ≤ bs` remaining rows, padded with `z` rows to the bucket size
`pickFinal r bs B ≥ r`, its mask a `true`-prefix of length `r`; and there is no batch at all iff
there is no client. -/
theorem C15_multi_full {α} (bs B : Nat) (hbs : 0 < bs) (hB : 0 < B) (z : α)
    (dsets : List (List α)) :
    ∃ (full : List (List α)) (rest : List α) (tail : List (List α × List Bool)),
      multiBatch bs B z dsets = some (fullBatches bs full ++ tail) ∧
      (∀ b ∈ full, b.length = bs) ∧
      ((tail = [] ∧ rest = []) ∨ tail = [lastBatch bs B z rest]) ∧
      rest.length ≤ bs ∧ rest.length ≤ pickFinal rest.length bs B ∧
      full.flatten ++ rest = dsets.flatten ∧
      (multiBatch bs B z dsets = some [] ↔ dsets = []) := by
  have h := MInv_final hbs dsets
  have hform := finish_form B hbs hB z h
  refine ⟨_, (finalState bs dsets).buf.flatten, _, hform, h.full, ?_, h.size ▸ h.le,
    le_pickFinal_self _ bs B hbs hB (h.size ▸ h.le), h.rows, fun hm => ?_, fun hd => hd ▸ rfl⟩
  · cases (finalState bs dsets).buf with
    | nil => exact Or.inl ⟨rfl, rfl⟩
    | cons p ps => exact Or.inr rfl
  · -- no batch at all: nothing was yielded and the buffer holds no piece, so no client came
    obtain ⟨h1, h2⟩ := List.append_eq_nil_iff.mp (Option.some.inj (hform.symm.trans hm))
    split at h2
    · exact h.consumed_nil (List.map_eq_nil_iff.mp h1) (List.isEmpty_iff.mp ‹_›)
    · exact nomatch h2

/-- does `d` carry the same preprocessor object and feature set as the first dataset? -/
def sameAs {α} (p f : Nat) (d : DS α) : Bool := d.pre == p && d.feats == f

theorem checkedLoop_spec {α} (bs p f : Nat) (ds : List (DS α)) (st : MState α) :
    checkedLoop bs ⟨some p, some f, st⟩ ds =
      (((ds.takeWhile (sameAs p f)).map DS.rows).foldl (stepDataset bs) st,
        !ds.all (sameAs p f)) := by
  induction ds generalizing st with
  | nil => rfl
  | cons d ds ih =>
    rw [checkedLoop, List.takeWhile_cons, List.all_cons, sameAs]
    -- `mismatch (some p) x` is `x != p`
    show (if (!(d.pre == p)) = true then _ else if (!(d.feats == f)) = true then _ else _) = _
    cases d.pre == p
    · rfl
    · cases d.feats == f
      · rfl
      · exact ih _

/-- Mismatching preprocessors or feature sets are rejected: the stream ends in `ValueError` iff
some dataset differs from the first one, exactly when the first such dataset is reached (the
batches completed by the datasets before it have been yielded, nothing else); with consistent
datasets the checks change nothing. -/
theorem C15_multi_reject {α} (bs B : Nat) (z : α) (d0 : DS α) (rest : List (DS α)) :
    multiBatchChecked bs B z ([] : List (DS α)) = some ([], false) ∧
    (rest.all (sameAs d0.pre d0.feats) = true →
      multiBatchChecked bs B z (d0 :: rest)
        = (multiBatch bs B z ((d0 :: rest).map DS.rows)).map fun v => (v, false)) ∧
    (rest.all (sameAs d0.pre d0.feats) = false →
      multiBatchChecked bs B z (d0 :: rest)
        = some (fullBatches bs
            (finalState bs ((d0 :: rest.takeWhile (sameAs d0.pre d0.feats)).map DS.rows)).out, true)) := by
  -- nothing is remembered yet when the first dataset comes: it passes both checks
  have key : checkedLoop bs ⟨none, none, MState.init⟩ (d0 :: rest) = _ :=
    checkedLoop_spec bs d0.pre d0.feats rest (stepDataset bs MState.init d0.rows)
  refine ⟨rfl, fun hall => ?_, fun hall => ?_⟩
  · have hwhile := List.takeWhile_append_of_pos (l₂ := []) (List.all_eq_true.mp hall)
    rw [List.append_nil, List.takeWhile_nil, List.append_nil] at hwhile
    rw [multiBatchChecked, key, hall, hwhile]
    rfl
  · rw [multiBatchChecked, key, hall]
    rfl

/-! ## buffered_shuffle -/

theorem bshufLoop_perm {α} (B : Nat) (buf rest : List α) (swaps : List Nat)
    (h : rest ≠ [] → buf ≠ []) : (bshufLoop B buf rest swaps).Perm (buf ++ rest) := by
  induction rest generalizing buf swaps with
  | nil =>
    rw [List.append_nil]
    exact .refl _
  | cons i rest ih =>
    cases buf with
    | nil => exact absurd rfl (h (List.cons_ne_nil _ _))
    | cons r tl =>
      rw [bshufLoop]
      have hb2 := swap0_ite_perm (swaps.headD 0 < B - 1) (i :: tl) (swaps.headD 0)
      have p := (ih _ swaps.tail fun _ => swap0_ite_ne_nil _ (List.cons_ne_nil i tl) _).trans
        (hb2.append_right rest)
      exact (p.trans List.perm_middle.symm).cons r

/-- **Buffered shuffling emits every input item exactly once per pass**, for every buffer size
`B ≥ 1` (also `B` longer than the stream), every sequence of `randint` draws and every shuffle
of the initial buffer that is a permutation. -/
theorem C15_bshuffle_perm {α} (B : Nat) (hB : 0 < B) (shuf : List α → List α) (swaps : List Nat)
    (src : List α) (hshuf : (shuf (src.take B)).Perm (src.take B)) :
    (bufferedShuffle B shuf swaps src).Perm src := by
  have hcond : src.drop B ≠ [] → shuf (src.take B) ≠ [] := fun hd h0 => by
    -- an empty initial buffer of size `B ≥ 1` means an empty source
    rcases List.take_eq_nil_iff.mp (h0 ▸ hshuf).nil_eq.symm with hB0 | hs
    · exact Nat.ne_of_gt hB hB0
    · exact hd (hs.symm ▸ List.drop_nil)
  have p := (bshufLoop_perm B (shuf (src.take B)) (src.drop B) swaps hcond).trans
    (hshuf.append_right _)
  rwa [List.take_append_drop] at p

theorem bshufLoop_window {α} {B : Nat} {buf rest : List α} {swaps : List Nat} {t : Nat} {x : α}
    (h : (bshufLoop B buf rest swaps)[t]? = some x) : x ∈ buf ++ rest.take t := by
  induction rest generalizing buf swaps t with
  | nil => exact List.mem_append_left _ (List.mem_of_getElem? h)
  | cons i rest ih =>
    cases buf with
    | nil => exact nomatch h
    | cons r tl =>
      rw [bshufLoop] at h
      cases t with
      | zero =>
        obtain rfl : r = x := Option.some.inj h
        exact List.mem_cons_self
      | succ t =>
        -- `x` waits in the buffer after the swap (`i` or an old item) or is read later
        have : x ∈ (i :: tl) ++ rest.take t :=
          ((swap0_ite_perm _ _ _).append_right _).mem_iff.mp (ih h)
        exact List.mem_cons_of_mem r (List.perm_middle.mem_iff.mpr this)

/-- The buffer size is respected: the `t`-th emitted item is one of the first `B + t` items of
the source (an item cannot leave before it was read, at most `B` items wait). -/
theorem C15_bshuffle_window {α} (B : Nat) (shuf : List α → List α) (swaps : List Nat)
    (src : List α) (hshuf : (shuf (src.take B)).Perm (src.take B)) (t : Nat) (x : α)
    (hx : (bufferedShuffle B shuf swaps src)[t]? = some x) : x ∈ src.take (B + t) := by
  rw [List.take_add]
  exact (hshuf.append_right _).mem_iff.mp (bshufLoop_window hx)

/-- `shuffled_clients`: every pass over the clients is a permutation of the clients. -/
theorem C15_shuffled_clients {α} (B : Nat) (hB : 0 < B) (shuf : Nat → List α → List α)
    (swaps : Nat → List Nat) (clients : List α)
    (hshuf : ∀ p, (shuf p (clients.take B)).Perm (clients.take B)) (passes p : Nat) (hp : p < passes) :
    (((shuffledClients B shuf swaps clients passes).drop (p * clients.length)).take clients.length).Perm
      clients := by
  have hperm := fun q => C15_bshuffle_perm B hB (shuf q) (swaps q) clients (hshuf q)
  rw [shuffledClients,
    Blocks.flatMap_range_drop_take _ (fun q => (hperm q).length_eq) hp (Nat.le_refl _),
    List.take_of_length_le (Nat.le_of_eq (hperm p).length_eq)]
  exact hperm p

/-! ## buffered_shuffle_batch_client_datasets -/

theorem chunkLoop_spec {α} {bs : Nat} (hbs : 0 < bs) (items buf : List α)
    (hb : buf.length < bs) :
    ∃ (full last : List (List α)), chunkLoop bs buf items = full ++ last ∧
      (∀ b ∈ full, b.length = bs) ∧
      (last = [] ∨ ∃ b, last = [b] ∧ 1 ≤ b.length ∧ b.length ≤ bs) ∧
      (full ++ last).flatten = buf ++ items := by
  induction items generalizing buf with
  | nil =>
    cases buf with
    | nil => exact ⟨[], [], rfl, List.forall_mem_nil _, Or.inl rfl, rfl⟩
    | cons a t =>
      exact ⟨[], [a :: t], rfl, List.forall_mem_nil _,
        Or.inr ⟨_, rfl, Nat.succ_pos _, Nat.le_of_lt hb⟩, rfl⟩
  | cons x xs ih =>
    rw [chunkLoop]
    by_cases hfull : (buf ++ [x]).length = bs
    · rw [if_pos hfull]
      -- the buffer restarts empty: `hbs` is `[].length < bs`
      obtain ⟨full, last, e, h1, h2, h3⟩ := ih [] hbs
      refine ⟨(buf ++ [x]) :: full, last, by rw [e]; rfl, List.forall_mem_cons.mpr ⟨hfull, h1⟩,
        h2, ?_⟩
      rw [List.cons_append, List.flatten_cons, h3, List.append_assoc]
      rfl
    · rw [if_neg hfull]
      obtain ⟨full, last, e, h1, h2, h3⟩ :=
        ih _ (Nat.lt_of_le_of_ne (by rw [List.length_append]; exact hb) hfull)
      exact ⟨full, last, e, h1, h2, by rw [h3, List.append_assoc]; rfl⟩

/-- One pass of `buffered_shuffle_batch_client_datasets`: the batches contain every example of every
client exactly once (a permutation of the concatenated datasets), every batch has `bs` rows except
possibly the last, which has between 1 and `bs`. -/
theorem C15_shuffle_batch {α} (bs B : Nat) (hbs : 0 < bs) (hB : 0 < B) (shuf : List α → List α)
    (swaps : List Nat) (dsets : List (List α))
    (hshuf : (shuf (dsets.flatten.take B)).Perm (dsets.flatten.take B)) :
    ∃ (full last : List (List α)), shuffleBatch bs B shuf swaps dsets = full ++ last ∧
      (∀ b ∈ full, b.length = bs) ∧
      (last = [] ∨ ∃ b, last = [b] ∧ 1 ≤ b.length ∧ b.length ≤ bs) ∧
      (shuffleBatch bs B shuf swaps dsets).flatten.Perm dsets.flatten := by
  obtain ⟨full, last, e, h1, h2, h3⟩ :=
    chunkLoop_spec hbs (bufferedShuffle B shuf swaps dsets.flatten) [] hbs
  refine ⟨full, last, e, h1, h2, ?_⟩
  unfold shuffleBatch
  rw [e, h3, List.nil_append]
  exact C15_bshuffle_perm B hB shuf swaps _ hshuf

/-! ## RepeatableIterator -/

/-- state after `k` calls of `next` -/
def RepIter.after {α} : Nat → RepIter α → RepIter α
  | 0, s => s
  | k+1, s => RepIter.after k s.next.2

theorem RepIter.nexts_add {α} (a b : Nat) (s : RepIter α) :
    RepIter.nexts (a + b) s = RepIter.nexts a s ++ RepIter.nexts b (RepIter.after a s) := by
  induction a generalizing s with
  | zero =>
    rw [Nat.zero_add]
    rfl
  | succ a ih =>
    rw [Nat.succ_add]
    exact congrArg (s.next.1 :: ·) (ih s.next.2)

theorem RepIter.after_add {α} (a b : Nat) (s : RepIter α) :
    RepIter.after (a + b) s = RepIter.after b (RepIter.after a s) := by
  induction a generalizing s with
  | zero =>
    rw [Nat.zero_add]
    rfl
  | succ a ih =>
    rw [Nat.succ_add]
    exact ih s.next.2

theorem RepIter.length_nexts {α} : ∀ (n : Nat) (s : RepIter α), (RepIter.nexts n s).length = n
  | 0, _ => rfl
  | n + 1, s => congrArg (· + 1) (RepIter.length_nexts n s.next.2)

/-- the sequence one pass produces -/
def passOf {α} (base : List α) : List (Option α) := base.map some ++ [none]

/-- one pass from any state: the remaining items, then `StopIteration`; afterwards the iterator
stands at the start of the buffer -/
theorem RepIter.pass_spec {α} (it : List α) (fp : Bool) (buf : List α) :
    RepIter.nexts (it.length + 1) ⟨fp, it, buf⟩ = passOf it ∧
    RepIter.after (it.length + 1) ⟨fp, it, buf⟩ =
      ⟨false, if fp then buf ++ it else buf, if fp then buf ++ it else buf⟩ := by
  induction it generalizing buf with
  | nil =>
    cases fp
    · exact ⟨rfl, rfl⟩
    · exact ⟨rfl, by rw [if_pos rfl, List.append_nil]; rfl⟩
  | cons v rest ih =>
    -- `next` yields `v` and, during the first pass, copies it to the buffer
    obtain ⟨h1, h2⟩ := ih (if fp then buf ++ [v] else buf)
    refine ⟨congrArg (some v :: ·) h1, h2.trans ?_⟩
    cases fp
    · rfl
    · simp only [if_true, List.append_assoc, List.singleton_append]

/-- whole passes from a state whose first pass leaves `base` in the buffer -/
theorem RepIter.nexts_passes {α} (base : List α) (p : Nat) (fp : Bool) (buf : List α)
    (h : (if fp then buf ++ base else buf) = base) :
    RepIter.nexts (p * (base.length + 1)) ⟨fp, base, buf⟩ = (List.replicate p (passOf base)).flatten := by
  induction p generalizing fp buf with
  | zero =>
    rw [Nat.zero_mul]
    rfl
  | succ p ih =>
    obtain ⟨h1, h2⟩ := RepIter.pass_spec base fp buf
    rw [Nat.succ_mul, Nat.add_comm, RepIter.nexts_add, h1, h2, h, ih false base rfl,
      List.replicate_succ, List.flatten_cons]

theorem RepIter.after_passes {α} (base : List α) (p : Nat) :
    RepIter.after (p * (base.length + 1)) (RepIter.ofContainer base) = RepIter.ofContainer base := by
  induction p with
  | zero =>
    rw [Nat.zero_mul]
    rfl
  | succ p ih =>
    rw [Nat.succ_mul, RepIter.after_add, ih]
    exact (RepIter.pass_spec base false base).2

/-- **A repeatable iterator replays exactly the items of its first pass on every later pass**:
`p` complete passes over a general iterable (copied during the first pass) yield `p` times
"the items of `base` in order, then StopIteration"; the same for builtin containers (never
copied: their buffer is the container itself and stays so). -/
theorem C15_repiter {α} (base : List α) (p : Nat) :
    RepIter.nexts (p * (base.length + 1)) (RepIter.ofIterable base)
      = (List.replicate p (passOf base)).flatten ∧
    RepIter.nexts (p * (base.length + 1)) (RepIter.ofContainer base)
      = (List.replicate p (passOf base)).flatten ∧
    (RepIter.after (p * (base.length + 1)) (RepIter.ofContainer base)).buf = base :=
  ⟨RepIter.nexts_passes base p true [] rfl, RepIter.nexts_passes base p false base rfl,
    congrArg RepIter.buf (RepIter.after_passes base p)⟩

/-- Any number `k` of `next` calls (complete passes or not, on either kind of base) yields the first
`k` entries of the repetition "items of `base` in order, then StopIteration" of `C15_repiter`. -/
theorem C15_repiter_prefix {α} (base : List α) (k : Nat) :
    RepIter.nexts k (RepIter.ofIterable base) = ((List.replicate k (passOf base)).flatten).take k ∧
    RepIter.nexts k (RepIter.ofContainer base) = ((List.replicate k (passOf base)).flatten).take k := by
  have key (s : RepIter α) : RepIter.nexts k s = (RepIter.nexts (k * (base.length + 1)) s).take k := by
    rw [Nat.mul_succ, Nat.add_comm, RepIter.nexts_add, List.take_left' (RepIter.length_nexts _ _)]
  rw [key, key, (C15_repiter base k).1, (C15_repiter base k).2.1]
  exact ⟨rfl, rfl⟩

-- fits / completes a batch / spans several batches / leaves an exact batch at the end
example : multiBatch 3 2 0 [[1, 2], [], [3, 4, 5, 6, 7], [8, 9]] =
    some [([1, 2, 3], [true, true, true]), ([4, 5, 6], [true, true, true]),
          ([7, 8, 9], [true, true, true])] := by decide +kernel
example : multiBatch 4 3 0 [[1], [2, 3, 4, 5, 6, 7]] =
    some [([1, 2, 3, 4], [true, true, true, true]), ([5, 6, 7, 0], [true, true, true, false])] := by
  decide +kernel
example : multiBatch 4 3 0 [[1, 2, 3, 4, 5]] =
    some [([1, 2, 3, 4], [true, true, true, true]), ([5], [true])] := by decide +kernel
example : multiBatch 3 1 (0 : Nat) [[], []] = some [([0, 0, 0], [false, false, false])] := by
  decide +kernel
example : multiBatch 3 1 (0 : Nat) [] = some [] := by decide +kernel
/-- the source comment's invariant `buf_size < batch_size` is false: `≤` is tight -/
example : (finalState 3 [[1, 2, 3]]).bufSize = 3 ∧ (finalState 3 [[1, 2, 3]]).out = [] := by
  decide +kernel
example : multiBatchChecked 2 1 0 [⟨7, 1, [1, 2, 3]⟩, ⟨7, 1, [4]⟩, ⟨8, 1, [5]⟩, ⟨7, 1, [6]⟩] =
    some ([([1, 2], [true, true]), ([3, 4], [true, true])], true) := by decide +kernel
example : multiBatchChecked 2 1 0 [⟨7, 1, [1, 2, 3]⟩, ⟨7, 1, [4]⟩, ⟨7, 1, [5]⟩] =
    some ([([1, 2], [true, true]), ([3, 4], [true, true]), ([5, 0], [true, false])], false) := by
  decide +kernel
example : bufferedShuffle 3 (fun l => l.reverse) [1, 0, 2, 1] [0, 1, 2, 3, 4, 5, 6] = [2, 1, 4, 5, 3, 6, 0] := by
  decide +kernel
example : (bufferedShuffle 3 (fun l => l.reverse) [1, 0, 2, 1] [0, 1, 2, 3, 4, 5, 6]).Perm [0, 1, 2, 3, 4, 5, 6] :=
  C15_bshuffle_perm 3 (by decide) _ _ _ (List.reverse_perm _)
example : bufferedShuffle 10 (fun l => l.reverse) [] [0, 1, 2] = [2, 1, 0] := by decide +kernel
example : shuffleBatch 2 3 (fun l => l.reverse) [1, 0, 2, 1] [[1, 2], [], [3, 4, 5, 6, 7]] =
    [[3, 2], [5, 6], [4, 7], [1]] := by decide +kernel
example : RepIter.nexts 9 (RepIter.ofIterable [5, 6, 7]) =
    [some 5, some 6, some 7, none, some 5, some 6, some 7, none, some 5] := by decide +kernel
example : RepIter.nexts 3 (RepIter.ofIterable ([] : List Nat)) = [none, none, none] := by
  decide +kernel

end FedjaxVerif.Centralised
