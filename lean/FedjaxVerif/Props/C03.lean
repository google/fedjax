import FedjaxVerif.Model.Batching
import FedjaxVerif.Lemmas.Ceil

/-!
# C03 — sequential batching is an exact, order-preserving partition

Property theorems about `Model/Batching.lean` (the model of `BatchView`, `PaddedBatchView`,
`_pick_final_batch_size`, `pad_examples`).  All statements quantify over every element type,
every list (dataset), every batch size `bs ≥ 1` and every bucket count.

Both views are lists of slices `raw[i*bs : i*bs+bs]`; slice `i` exists iff `i * bs < N` and is
full iff `i * bs + bs ≤ N` (`Lemmas/Ceil.lean`), and that is all the arithmetic the proofs use.
-/

namespace FedjaxVerif.Batching

/-- the `i`-th slice `raw[i*bs : i*bs+bs]` -/
def slice {α} (bs : Nat) (xs : List α) (i : Nat) : List α := (xs.drop (i * bs)).take bs

theorem slice_length {α} (bs : Nat) (xs : List α) (i : Nat) :
    (slice bs xs i).length = min bs (xs.length - i * bs) := by
  simp [slice, List.length_take, List.length_drop]

theorem slice_length_le {α} (bs : Nat) (xs : List α) (i : Nat) : (slice bs xs i).length ≤ bs :=
  slice_length .. ▸ Nat.min_le_left ..

theorem slice_length_pos {α} {bs : Nat} (hbs : 0 < bs) {xs : List α} {i : Nat}
    (h : i * bs < xs.length) : 1 ≤ (slice bs xs i).length :=
  slice_length .. ▸ Nat.le_min.mpr ⟨hbs, Nat.sub_pos_of_lt h⟩

theorem slice_length_full {α} {bs : Nat} {xs : List α} {i : Nat} (h : i * bs + bs ≤ xs.length) :
    (slice bs xs i).length = bs :=
  slice_length .. ▸ Nat.min_eq_left (Nat.le_sub_of_add_le' h)

theorem slice_length_last {α} {bs : Nat} {xs : List α} {i : Nat} (h : xs.length ≤ i * bs + bs) :
    (slice bs xs i).length = xs.length - i * bs :=
  slice_length .. ▸ Nat.min_eq_right (Nat.sub_le_of_le_add (Nat.add_comm .. ▸ h))

theorem flatten_slices {α} (bs : Nat) (xs : List α) (k : Nat) :
    ((List.range k).map (slice bs xs)).flatten = xs.take (k * bs) := by
  induction k with
  | zero => simp
  | succ k ih =>
    rw [List.range_succ, List.map_append, List.flatten_append, ih, Nat.succ_mul, List.take_add]
    simp [slice]

theorem filter_lt_range {q k : Nat} (h : q ≤ k) :
    (List.range k).filter (fun i => decide (i < q)) = List.range q := by
  obtain ⟨m, rfl⟩ := Nat.exists_eq_add_of_le h
  rw [List.range_add, List.filter_append, List.filter_eq_self.mpr, List.filter_eq_nil_iff.mpr,
    List.append_nil]
  · intro i hi
    obtain ⟨j, _, rfl⟩ := List.mem_map.mp hi
    simp
  · intro i hi
    simpa using hi

theorem batchView_eq_filter_map_slice {α} (bs : Nat) (d : Bool) (xs : List α) :
    batchView bs d xs = ((List.range ((xs.length + bs - 1) / bs)).filter
      fun i => !d || decide (i * bs + bs ≤ xs.length)).map (slice bs xs) := by
  rw [batchView, starts, List.filterMap_map, ← List.filterMap_eq_map, List.filterMap_filter]
  -- both sides are one `filterMap` over the batch indices; at index `i` the start is `i * bs`
  rfl

theorem batchView_false {α} (bs : Nat) (xs : List α) :
    batchView bs false xs = (List.range ((xs.length + bs - 1) / bs)).map (slice bs xs) := by
  rw [batchView_eq_filter_map_slice, List.filter_eq_self.mpr]
  exact fun _ _ => rfl

theorem batchView_true {α} (bs : Nat) (h : 0 < bs) (xs : List α) :
    batchView bs true xs = (List.range (xs.length / bs)).map (slice bs xs) := by
  rw [batchView_eq_filter_map_slice, ← filter_lt_range (Ceil.floor_le_ceil xs.length h)]
  simp only [Ceil.lt_floor_iff h, Bool.not_true, Bool.false_or]

/-- Plain batches concatenate to the dataset: each example once, in the original order. -/
theorem C03_concat {α} (bs : Nat) (hbs : 0 < bs) (xs : List α) :
    (batchView bs false xs).flatten = xs := by
  rw [batchView_false, flatten_slices]
  exact List.take_of_length_le (Ceil.le_ceil_mul _ hbs)

/-- No batch is empty (plain mode), and the empty dataset has no batches. -/
theorem C03_no_empty_batch {α} (bs : Nat) (hbs : 0 < bs) (xs : List α) :
    (∀ b ∈ batchView bs false xs, 1 ≤ b.length ∧ b.length ≤ bs) ∧
    (batchView bs false xs = [] ↔ xs = []) := by
  refine ⟨?_, fun h => ?_, fun h => ?_⟩
  · rw [batchView_false]
    intro b hb
    obtain ⟨i, hi, rfl⟩ := List.mem_map.mp hb
    exact ⟨slice_length_pos hbs ((Ceil.lt_ceil_iff hbs).mp (List.mem_range.mp hi)),
      slice_length_le ..⟩
  · rw [← C03_concat bs hbs xs, h]
    rfl
  · rw [h, batchView_false, List.length_nil, Nat.zero_add,
      Nat.div_eq_of_lt (Nat.sub_one_lt (Nat.ne_of_gt hbs))]
    rfl

/-- Number of batches, sizes of all batches but the last, size of the last one. -/
theorem C03_sizes {α} (bs : Nat) (hbs : 0 < bs) (xs : List α) :
    (batchView bs false xs).length = (xs.length + bs - 1) / bs ∧
    (∀ b ∈ (batchView bs false xs).dropLast, b.length = bs) ∧
    (∀ b, (batchView bs false xs).getLast? = some b → 1 ≤ b.length ∧ b.length ≤ bs) := by
  refine ⟨?_, ?_, fun b hb => (C03_no_empty_batch bs hbs xs).1 b (List.mem_of_getLast? hb)⟩
  · rw [batchView_false, List.length_map, List.length_range]
  · intro b hb
    rw [batchView_false, List.dropLast_eq_take, ← List.map_take, List.take_range] at hb
    simp only [List.length_map, List.length_range, List.mem_map, List.mem_range] at hb
    obtain ⟨i, hi, rfl⟩ := hb
    -- `i + 1` is still a batch index, so batch `i` is full
    have hlt : (i + 1) * bs < xs.length :=
      (Ceil.lt_ceil_iff hbs).mp (Nat.add_lt_of_lt_sub (Nat.lt_min.mp hi).1)
    exact slice_length_full (Nat.succ_mul .. ▸ Nat.le_of_lt hlt)

/-- `drop_remainder=True` removes only an incomplete final batch. -/
theorem C03_drop_remainder {α} (bs : Nat) (hbs : 0 < bs) (xs : List α) :
    batchView bs true xs = (batchView bs false xs).take (xs.length / bs) ∧
    (batchView bs true xs).flatten = xs.take (xs.length / bs * bs) ∧
    (∀ b ∈ batchView bs true xs, b.length = bs) := by
  rw [batchView_true bs hbs, batchView_false]
  refine ⟨?_, flatten_slices _ _ _, ?_⟩
  · rw [← List.map_take, List.take_range, Nat.min_eq_left (Ceil.floor_le_ceil _ hbs)]
  · intro b hb
    obtain ⟨i, hi, rfl⟩ := List.mem_map.mp hb
    exact slice_length_full ((Ceil.lt_floor_iff hbs).mp (List.mem_range.mp hi))

/-- When the batch size divides the dataset size there is no remainder to drop: `drop_remainder=True`
and `False` give the same batches. -/
theorem C03_drop_remainder_exact {α} (bs : Nat) (hbs : 0 < bs) (xs : List α)
    (hdiv : xs.length % bs = 0) :
    batchView bs true xs = batchView bs false xs := by
  rw [(C03_drop_remainder bs hbs xs).1]
  apply List.take_of_length_le
  rw [(C03_sizes bs hbs xs).1]
  refine Nat.le_of_not_lt fun h => ?_
  rw [Ceil.lt_ceil_iff hbs, Nat.div_mul_cancel (Nat.dvd_of_mod_eq_zero hdiv)] at h
  exact Nat.lt_irrefl _ h

/-- Batching commutes with any per-example preprocessor. -/
theorem C03_preprocess {α β} (g : α → β) (bs : Nat) (hbs : 0 < bs) (d : Bool) (xs : List α) :
    (batchView bs d xs).map (List.map g) = batchView bs d (xs.map g) := by
  -- `hbs` is not needed: for `bs = 0` both sides are `[]`
  rw [batchView_eq_filter_map_slice, batchView_eq_filter_map_slice, List.map_map, List.length_map]
  congr 1
  funext i
  simp [slice, List.map_take, List.map_drop]

/-- loop invariant form: started at (high = bs / 2^j, low = bs / 2^(j+1), n = j+1) with r ≤ high -/
theorem pickGo_spec (r B bs : Nat) :
    ∀ fuel j, j + fuel ≥ B → j + 1 ≤ B ∨ fuel = 0 → r ≤ bs / 2 ^ j →
      ∃ j', j ≤ j' ∧ j' < max B (j+1) ∧
        pickGo r B fuel (bs / 2 ^ j) (bs / 2 ^ (j+1)) (j+1) = bs / 2 ^ j' ∧
        r ≤ bs / 2 ^ j' ∧ (j' + 1 < B → bs / 2 ^ (j'+1) < r) := by
  -- `j + 1 ≤ B ∨ fuel = 0` is not needed; `max B (j+1)` keeps the bound true for a start with `j ≥ B`
  intro fuel j hj hB hr
  induction fuel generalizing j with
  | zero =>
    exact ⟨j, Nat.le_refl _, Nat.lt_of_lt_of_le (Nat.lt_succ_self j) (Nat.le_max_right ..), rfl, hr,
      fun h => absurd hj (Nat.not_le.mpr (Nat.lt_of_succ_lt h))⟩
  | succ fuel ih =>
    rw [pickGo]
    split
    · rename_i hc
      rw [Nat.div_div_eq_div_mul, ← Nat.pow_succ]
      obtain ⟨j', h1, h2, h3⟩ := ih (j+1) (Nat.succ_add_eq_add_succ j fuel ▸ hj) (Or.inl hc.2) hc.1
      rw [Nat.max_eq_left hc.2] at h2
      exact ⟨j', Nat.le_of_succ_le h1, Nat.lt_of_lt_of_le h2 (Nat.le_max_left ..), h3⟩
    · rename_i hc
      exact ⟨j, Nat.le_refl _, Nat.lt_of_lt_of_le (Nat.lt_succ_self j) (Nat.le_max_right ..), rfl, hr,
        fun h => Nat.lt_of_not_le fun h' => hc ⟨h', h⟩⟩

/-- The final batch size is `bs` halved `j < B` times, holds the remainder, and halving once
more (if still allowed) would not. Fuel `B` suffices for the loop (`C03_pickFinal_fuel` is
implicit: the statement is about `pickFinal`, which runs the loop with fuel `B`). -/
theorem C03_pickFinal_spec (N bs B : Nat) (hbs : 0 < bs) (hB : 0 < B) (hr : N % bs ≠ 0) :
    ∃ j, j < B ∧ pickFinal N bs B = bs / 2 ^ j ∧ N % bs ≤ bs / 2 ^ j ∧
      (j + 1 < B → bs / 2 ^ (j+1) < N % bs) := by
  obtain ⟨j', _, h2, h3, h4⟩ := pickGo_spec (N % bs) B bs B 0 (Nat.le_add_left ..) (Or.inl hB)
    (by rw [Nat.pow_zero, Nat.div_one]; exact Nat.le_of_lt (Nat.mod_lt _ hbs))
  refine ⟨j', by rwa [Nat.max_eq_left hB] at h2, ?_, h4⟩
  rw [pickFinal, if_neg hr, ← h3, Nat.pow_zero, Nat.div_one, Nat.zero_add, Nat.pow_one]

theorem div_pow_anti (bs : Nat) {a b : Nat} (h : a ≤ b) : bs / 2 ^ b ≤ bs / 2 ^ a :=
  Nat.div_le_div_left (Nat.pow_le_pow_right Nat.two_pos h) (Nat.pow_pos Nat.two_pos)

/-- The final batch size is the *smallest* among `bs` halved `0 … B-1` times that still holds the
remainder. -/
theorem C03_pickFinal_min (N bs B : Nat) (hbs : 0 < bs) (hB : 0 < B) (hr : N % bs ≠ 0) :
    ∀ j', j' < B → N % bs ≤ bs / 2 ^ j' → pickFinal N bs B ≤ bs / 2 ^ j' := by
  obtain ⟨j, hj, he, _, hmin⟩ := C03_pickFinal_spec N bs B hbs hB hr
  intro j' hj' hle
  rw [he]
  by_cases hc : j' ≤ j
  · exact div_pow_anti bs hc
  · -- `j' > j`: already one more halving falls below the remainder
    have hlt : j + 1 ≤ j' := Nat.lt_of_not_le hc
    exact absurd (Nat.lt_of_le_of_lt (div_pow_anti bs hlt) (hmin (Nat.lt_of_le_of_lt hlt hj')))
      (Nat.not_lt.mpr hle)

/-- no remainder ⇒ no padding: the final batch size is `bs`. -/
theorem C03_pickFinal_exact (N bs B : Nat) (hr : N % bs = 0) : pickFinal N bs B = bs := by
  rw [pickFinal, if_pos hr]

theorem mod_le_pickFinal (N bs B : Nat) (hbs : 0 < bs) (hB : 0 < B) : N % bs ≤ pickFinal N bs B := by
  by_cases hr : N % bs = 0
  · exact hr ▸ Nat.zero_le _
  · obtain ⟨j, _, he, h, _⟩ := C03_pickFinal_spec N bs B hbs hB hr
    exact he ▸ h

theorem le_pickFinal_self (r bs B : Nat) (hbs : 0 < bs) (hB : 0 < B) (hr : r ≤ bs) :
    r ≤ pickFinal r bs B := by
  rcases Nat.lt_or_eq_of_le hr with h | rfl
  · have := mod_le_pickFinal r bs B hbs hB
    rwa [Nat.mod_eq_of_lt h] at this
  · exact Nat.le_of_eq (C03_pickFinal_exact _ _ _ (Nat.mod_self _)).symm

theorem map_decide_lt_range (size r : Nat) (h : r ≤ size) :
    (List.range size).map (fun i => decide (i < r))
      = List.replicate r true ++ List.replicate (size - r) false := by
  apply List.ext_getElem
  · rw [List.length_map, List.length_range, List.length_append, List.length_replicate,
      List.length_replicate, Nat.add_sub_cancel' h]
  · intro i h1 h2
    simp only [List.getElem_map, List.getElem_range, List.getElem_append, List.length_replicate,
      List.getElem_replicate]
    by_cases hi : i < r <;> simp [hi]

theorem padTo_eq {α} (z : α) {size : Nat} {rows : List α} (h : rows.length ≤ size) :
    padTo z size rows = some (rows ++ List.replicate (size - rows.length) z,
      List.replicate rows.length true ++ List.replicate (size - rows.length) false) := by
  rw [padTo, if_neg (Nat.not_lt.mpr h), map_decide_lt_range _ _ h]

theorem unpadBatch_prefix {α} (rows pad : List α) (k : Nat) :
    unpadBatch (rows ++ pad, List.replicate rows.length true ++ List.replicate k false) = rows := by
  induction rows with
  | nil =>
    refine List.filterMap_eq_nil_iff.mpr fun p hp => ?_
    rw [(List.mem_replicate.mp (List.of_mem_zip hp).2).2]
    rfl
  | cons a rows ih =>
    unfold unpadBatch at *
    simp only [List.cons_append, List.length_cons, List.replicate_succ, List.zip_cons_cons,
      List.filterMap_cons, if_true]
    rw [ih]

theorem mapM_some_of_forall {α β} (f : α → Option β) (g : α → β) (l : List α)
    (h : ∀ x ∈ l, f x = some (g x)) : l.mapM f = some (l.map g) := by
  induction l with
  | nil => simp
  | cons a l ih =>
    rw [List.mapM_cons, h a (List.mem_cons_self), ih (fun x hx => h x (List.mem_cons_of_mem _ hx))]
    simp

/-- the `i`-th padded batch in normal form -/
def paddedBatch {α} (bs B : Nat) (z : α) (xs : List α) (i : Nat) : List α × List Bool :=
  let rows := slice bs xs i
  let s := if i * bs + bs ≤ xs.length then bs else pickFinal xs.length bs B
  (rows ++ List.replicate (s - rows.length) z,
   List.replicate rows.length true ++ List.replicate (s - rows.length) false)

/-- rows of the `i`-th batch fit into its declared size (so `pad_examples` never raises) -/
theorem slice_fits {α} {bs B : Nat} (hbs : 0 < bs) (hB : 0 < B) {xs : List α} {i : Nat}
    (hi : i * bs < xs.length) :
    (slice bs xs i).length ≤ (if i * bs + bs ≤ xs.length then bs else pickFinal xs.length bs B) := by
  split
  · exact slice_length_le ..
  · rename_i h
    rw [slice_length_last (Nat.le_of_not_le h),
      Ceil.sub_eq_mod (Nat.le_of_lt hi) (Nat.lt_of_not_le h)]
    exact mod_le_pickFinal _ _ _ hbs hB

/-- Normal form of the padded view: it never fails, has `⌈N/bs⌉` batches, and the `i`-th batch
is the `i`-th slice followed by `z` rows, with a mask that is `true` exactly on the slice. -/
theorem C03_padded_form {α} (bs B : Nat) (hbs : 0 < bs) (hB : 0 < B) (z : α) (xs : List α) :
    paddedView bs B z xs
      = some ((List.range ((xs.length + bs - 1) / bs)).map (paddedBatch bs B z xs)) := by
  unfold paddedView starts
  rw [List.mapM_map]
  apply mapM_some_of_forall
  intro i hi
  have hfit := slice_fits hbs hB (B := B) ((Ceil.lt_ceil_iff hbs).mp (List.mem_range.mp hi))
  simp only [Function.comp, paddedBatch]
  split
  · rename_i h
    rw [← slice, slice_length_full h]
    simp
  · rename_i h
    rw [if_neg h] at hfit
    exact padTo_eq z hfit

/-- Removing the padded rows gives back the dataset: each example once, in order. -/
theorem C03_padded_unpad {α} (bs B : Nat) (hbs : 0 < bs) (hB : 0 < B) (z : α) (xs : List α) :
    ∃ v, paddedView bs B z xs = some v ∧ unpad v = xs := by
  refine ⟨_, C03_padded_form bs B hbs hB z xs, ?_⟩
  have : (unpadBatch ∘ paddedBatch bs B z xs) = slice bs xs := funext fun i => unpadBatch_prefix ..
  rw [unpad, List.flatMap_def, List.map_map, this, flatten_slices]
  exact List.take_of_length_le (Ceil.le_ceil_mul _ hbs)

/-- Mask and sizes: every mask is a `true`-prefix of exactly the real rows followed by `false`,
padded rows are the zero row `z`; every batch but the last is full (`bs` real rows, size `bs`);
the last batch has `N % bs` real rows (if that is non-zero) and size `pickFinal N bs B`. -/
theorem C03_mask_prefix {α} (bs B : Nat) (hbs : 0 < bs) (hB : 0 < B) (z : α) (xs : List α)
    (i : Nat) (hi : i < (xs.length + bs - 1) / bs) :
    let b := paddedBatch bs B z xs i
    let r := (slice bs xs i).length
    b.2 = List.replicate r true ++ List.replicate (b.2.length - r) false ∧
    b.1 = slice bs xs i ++ List.replicate (b.1.length - r) z ∧
    b.1.length = b.2.length ∧
    (i + 1 < (xs.length + bs - 1) / bs → r = bs ∧ b.2.length = bs) ∧
    (i + 1 = (xs.length + bs - 1) / bs →
        b.2.length = pickFinal xs.length bs B ∧ 1 ≤ r ∧
        (xs.length % bs ≠ 0 → r = xs.length % bs)) := by
  have hi' := (Ceil.lt_ceil_iff hbs).mp hi
  have hfit := slice_fits hbs hB (B := B) hi'
  simp only [paddedBatch, List.length_append, List.length_replicate, Nat.add_sub_cancel' hfit]
  -- the first three conjuncts restate the pair `paddedBatch` is defined as: `simp only` left `True`
  refine ⟨trivial, trivial, trivial, fun h => ?_, fun h => ?_⟩
  · have hfull := Nat.le_of_lt (Nat.succ_mul .. ▸ (Ceil.lt_ceil_iff hbs).mp h)
    exact ⟨slice_length_full hfull, if_pos hfull⟩
  · have hlast : xs.length ≤ i * bs + bs := by
      rw [← Nat.succ_mul, Nat.succ_eq_add_one, h]
      exact Ceil.le_ceil_mul _ hbs
    have hmod : xs.length = i * bs + bs → xs.length % bs = 0 := fun he => by
      rw [he, ← Nat.succ_mul]
      exact Nat.mul_mod_left ..
    refine ⟨?_, slice_length_pos hbs hi', fun hr => ?_⟩
    · split
      · rw [C03_pickFinal_exact _ _ _ (hmod (Nat.le_antisymm hlast ‹_›))]
      · rfl
    · rw [slice_length_last hlast]
      exact Ceil.sub_eq_mod (Nat.le_of_lt hi') (Nat.lt_of_le_of_ne hlast fun he => hr (hmod he))

example : (batchView 3 false [1, 2, 3, 4, 5, 6, 7]).flatten = [1, 2, 3, 4, 5, 6, 7] :=
  C03_concat 3 (by decide) _
example : batchView 3 false [1, 2, 3, 4, 5, 6, 7] = [[1, 2, 3], [4, 5, 6], [7]] := by decide +kernel
example : batchView 3 true [1, 2, 3, 4, 5, 6, 7] = [[1, 2, 3], [4, 5, 6]] := by decide +kernel
example : paddedView 4 3 0 [1, 2, 3, 4, 5] =
    some [([1, 2, 3, 4], [true, true, true, true]), ([5], [true])] := by decide +kernel
example : paddedView 8 2 0 [1, 2, 3, 4, 5, 6, 7, 8, 9] =
    some [([1, 2, 3, 4, 5, 6, 7, 8], List.replicate 8 true), ([9, 0, 0, 0], [true, false, false, false])] := by
  decide +kernel
example : 9 % 8 ≠ 0 ∧ pickFinal 9 8 2 = 4 ∧ pickFinal 9 8 1 = 8 ∧ pickFinal 9 8 4 = 1 := by decide +kernel

end FedjaxVerif.Batching
