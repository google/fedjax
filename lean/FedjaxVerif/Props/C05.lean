import FedjaxVerif.Lemmas.Stats
import FedjaxVerif.Lemmas.Metrics
import FedjaxVerif.Props.C03
import FedjaxVerif.Props.C15

/-!
# C05 — evaluation is invariant to batching and padding (metric monoid)

Theorems about `Model/Stats.lean` (`MeanStat`, `SumStat`, their pointwise lifts, `evalBatch`,
`evalStep`, `evalModel`) and their instantiation at the built-in metrics of `Model/Metrics.lean`.
Everything is exact arithmetic over `Rat`; "valid" is the documented domain
`{(0,0)} ∪ {(a,b) | b > 0}` of `MeanStat` (every `SumStat` is valid).
-/

namespace FedjaxVerif.Stats
open FedjaxVerif.Metrics

/-- On the documented domain `merge` is associative and commutative with `zero` as two-sided
identity, and `reduce` is the iterated merge — for `MeanStat`, for `SumStat`, and for every
pointwise lift of them (per-position, per-domain, confusion-matrix statistics of `n` entries). -/
theorem C05_monoid :
    Lawful meanOps MeanStat.Valid ∧ Lawful sumOps (fun _ => True) ∧
    (∀ n, Lawful (vecOps n meanOps) (VecValid n MeanStat.Valid)) ∧
    (∀ n, Lawful (vecOps n sumOps) (VecValid n fun _ => True)) :=
  ⟨meanLawful, sumLawful, fun n => vecLawful n meanLawful, fun n => vecLawful n sumLawful⟩

/-- The monoid laws of `C05_monoid`, spelled out for `MeanStat`. -/
theorem C05_monoid_mean (s t u : MeanStat) (hs : s.Valid) (ht : t.Valid) (hu : u.Valid) :
    (s.merge t).merge u = s.merge (t.merge u) ∧ s.merge t = t.merge s ∧
    MeanStat.zero.merge s = s ∧ s.merge MeanStat.zero = s :=
  ⟨meanLawful.merge_assoc s t u hs ht hu, meanLawful.merge_comm s t hs ht, meanLawful.zero_merge s hs,
    meanLawful.merge_zero hs⟩

/-- The monoid laws of `C05_monoid`, spelled out for `SumStat` (no domain restriction). -/
theorem C05_monoid_sum (s t u : SumStat) :
    (s.merge t).merge u = s.merge (t.merge u) ∧ s.merge t = t.merge s ∧
    SumStat.zero.merge s = s ∧ s.merge SumStat.zero = s :=
  ⟨sumLawful.merge_assoc s t u trivial trivial trivial, sumLawful.merge_comm s t trivial trivial,
    sumLawful.zero_merge s trivial, sumLawful.merge_zero trivial⟩

/-- the documented domain is closed under `new` (for arbitrary inputs), `merge` and `reduce`
(for arbitrary, even invalid, arguments), and contains `zero` -/
theorem C05_valid_closed (a w : Rat) (s t : MeanStat) (l : List MeanStat) :
    (MeanStat.new a w).Valid ∧ (s.merge t).Valid ∧ (MeanStat.reduce l).Valid ∧ MeanStat.zero.Valid :=
  ⟨MeanStat.new_valid a w, MeanStat.merge_valid s t, MeanStat.reduce_valid l, MeanStat.zero_valid⟩

/-- why `new` exists: outside the documented domain `merge` is not associative -/
theorem C05_nonvalid_not_assoc :
    ∃ s t u : MeanStat, (s.merge t).merge u ≠ s.merge (t.merge u) :=
  -- the left side has lost (5, -1) to sanitising: (0, 0) + (1, 1); the right side is (5, -1) + (2, 2)
  ⟨⟨5, -1⟩, ⟨1, 1⟩, ⟨1, 1⟩, by decide +kernel⟩

/-- `result` never divides by zero: a valid statistic is `zero` with result `0`, or has positive
weight and `result · weight = accum` -/
theorem C05_result_total (s : MeanStat) (h : s.Valid) :
    (s = MeanStat.zero ∧ s.result = 0) ∨ (0 < s.weight ∧ s.result * s.weight = s.accum) := by
  rcases h with ⟨h1, h2⟩ | h
  · left
    refine ⟨?_, if_neg (not_not.mpr h2)⟩
    show (⟨s.accum, s.weight⟩ : MeanStat) = MeanStat.zero
    rw [h1, h2, MeanStat.zero_eq]
  · right
    refine ⟨h, ?_⟩
    rw [MeanStat.result, if_pos (ne_of_gt h)]
    exact div_mul_cancel₀ _ (ne_of_gt h)

/-- `reduce` of valid statistics = left fold of `merge` from `zero` (any lawful statistic) -/
theorem C05_reduce_fold {σ : Type} {o : StatOps σ} {V : σ → Prop} (h : Lawful o V)
    (l : List σ) (hl : ∀ x ∈ l, V x) : o.reduce l = l.foldl o.merge o.zero :=
  ((h.foldl_merge h.zero_valid hl).trans (h.zero_merge _ (h.reduce_valid hl))).symm

/-- `C05_reduce_fold` for `MeanStat`: `reduce` of valid statistics is the left fold of `merge` from
`zero`. -/
theorem C05_reduce_fold_mean (l : List MeanStat) (hl : ∀ x ∈ l, x.Valid) :
    MeanStat.reduce l = l.foldl MeanStat.merge MeanStat.zero :=
  C05_reduce_fold meanLawful l hl

/-- `evaluate_batch` only looks at the unmasked rows: replacing the content of masked rows by
anything of the example type (and `f` may even be undefined/invalid there) leaves the batch
statistic unchanged.  No assumption on the statistic. -/
theorem C05_mask {σ ε : Type} (o : StatOps σ) (f : ε → σ) (rows rows' : List ε) (mask : List Bool)
    (hlen : rows.length = rows'.length)
    (hsame : ∀ i (h : i < rows.length) (h' : i < rows'.length), mask[i]? = some true → rows[i] = rows'[i]) :
    evalBatch o f rows (some mask) = evalBatch o f rows' (some mask) := by
  refine congrArg o.reduce (List.ext_getElem ?_ fun i h1 h2 => ?_)
  · simp only [maskRows, List.length_zipWith, hlen]
  · simp only [maskRows, List.length_zipWith, Nat.lt_min] at h1 h2
    simp only [maskRows, List.getElem_zipWith]
    split
    · next hb => rw [hsame i h1.1 h2.1 (by rw [List.getElem?_eq_getElem h1.2, hb])]
    · rfl

/-- a batch without a mask feature is evaluated with an all-true mask: all its rows are real -/
theorem C05_default_mask {ε : Type} (rows : List ε) : batchReal (rows, none) = rows := by
  rw [batchReal, batchMask, Option.getD_none, unmasked_eq,
    List.filter_eq_self.mpr fun p hp => List.eq_of_mem_replicate (List.of_mem_zip hp).2,
    List.map_fst_zip (Nat.le_of_eq List.length_replicate.symm)]

/-- **Main theorem.**  For any lawful statistic, any per-example function `f`, any list of batches
(any sizes, any masks — not only prefix masks —, arbitrary content in masked rows, with or without
a mask feature) whose real rows are, in some order, the examples `examples`:
`evaluate_model` returns the merge of the single-example statistics one by one. -/
theorem C05_partition_invariant {σ ε : Type} {o : StatOps σ} {V : σ → Prop} (h : Lawful o V)
    (f : ε → σ) (batches : List (List ε × Option (List Bool))) (examples : List ε)
    (hperm : (batches.flatMap batchReal).Perm examples)
    (hv : ∀ e ∈ examples, V (f e)) :
    evalModel o f batches = examples.foldl (fun s e => o.merge s (f e)) o.zero := by
  have hv' : ∀ e ∈ batches.flatMap batchReal, V (f e) := fun e he => hv e (hperm.mem_iff.mp he)
  rw [evalModel_eq h f batches hv', h.reduce_perm (hperm.map f) (List.forall_mem_map.mpr hv'),
    C05_reduce_fold h _ (List.forall_mem_map.mpr hv), List.foldl_map]

/-- two evaluations of the same examples — different partitions, orders, paddings — agree -/
theorem C05_two_partitions {σ ε : Type} {o : StatOps σ} {V : σ → Prop} (h : Lawful o V)
    (f : ε → σ) (b₁ b₂ : List (List ε × Option (List Bool)))
    (hperm : (b₁.flatMap batchReal).Perm (b₂.flatMap batchReal))
    (hv : ∀ e ∈ b₂.flatMap batchReal, V (f e)) :
    evalModel o f b₁ = evalModel o f b₂ := by
  rw [C05_partition_invariant h f b₁ _ hperm hv,
    C05_partition_invariant h f b₂ _ (List.Perm.refl _) hv]

/-- no real rows (no batches, or only fully masked batches) ⇒ the zero statistic -/
theorem C05_empty {σ ε : Type} {o : StatOps σ} {V : σ → Prop} (h : Lawful o V)
    (f : ε → σ) (batches : List (List ε × Option (List Bool)))
    (hnone : ∀ b ∈ batches, batchReal b = []) : evalModel o f batches = o.zero := by
  have hnil : batches.flatMap batchReal = [] := List.flatMap_eq_nil_iff.mpr hnone
  exact C05_partition_invariant h f batches [] (hnil ▸ .nil) fun _ he => nomatch he

/-- The `result` of the zero statistic is `0` in every entry (never NaN). -/
theorem C05_empty_result (n : Nat) :
    ((vecOps n meanOps).zero.map MeanStat.result = List.replicate n 0) ∧
    ((vecOps n sumOps).zero.map SumStat.result = List.replicate n 0) := by
  constructor
  · show (List.replicate n MeanStat.zero).map MeanStat.result = _
    simp [MeanStat.result_zero]
  · show (List.replicate n SumStat.zero).map SumStat.result = _
    simp [SumStat.result, SumStat.zero, SumStat.new]

/-- `C05_partition_invariant` holds of every mean-valued built-in metric (incl. per-position and
`PerDomainMetric` variants) on sequences of `len` positions. -/
theorem C05_builtin_mean (m : MeanMetric) (len : Nat)
    (batches : List (List Ex × Option (List Bool))) (examples : List Ex)
    (hperm : (batches.flatMap batchReal).Perm examples)
    (hshape : ∀ e ∈ examples, e.WellShaped len) :
    evalModel (vecOps (m.size len) meanOps) m.eval batches
      = examples.foldl (fun s e => (vecOps (m.size len) meanOps).merge s (m.eval e))
          (vecOps (m.size len) meanOps).zero :=
  C05_partition_invariant (vecLawful _ meanLawful) m.eval batches examples hperm
    fun e he => m.eval_vecValid len e (hshape e he)

/-- `C05_partition_invariant` holds of every sum-valued built-in metric (token/sequence counts,
`ConfusionMatrix`, `PerDomainMetric` over them). -/
theorem C05_builtin_sum (m : SumMetric)
    (batches : List (List Ex × Option (List Bool))) (examples : List Ex)
    (hperm : (batches.flatMap batchReal).Perm examples) :
    evalModel (vecOps m.size sumOps) m.eval batches
      = examples.foldl (fun s e => (vecOps m.size sumOps).merge s (m.eval e)) (vecOps m.size sumOps).zero :=
  C05_partition_invariant (vecLawful _ sumLawful) m.eval batches examples hperm
    fun e _ => m.eval_vecValid e

/-! ## composition with C03 and C15: evaluating over padded batches is independent of the batch
geometry -/

/-- batches that all carry a mask: their real rows are C03's `unpad` -/
theorem evalModel_unpad {σ ε : Type} {o : StatOps σ} {V : σ → Prop} (h : Lawful o V) (f : ε → σ)
    {v : List (List ε × List Bool)} {xs : List ε} (hxs : Batching.unpad v = xs)
    (hv : ∀ e ∈ xs, V (f e)) :
    evalModel o f (v.map fun b => (b.1, some b.2)) = xs.foldl (fun s e => o.merge s (f e)) o.zero :=
  -- `batchReal (b.1, some b.2)` unfolds to `unpadBatch b`: `Stats.unmasked` has the body of `unpadBatch`
  C05_partition_invariant h f _ xs (by rw [← hxs, List.flatMap_map]; rfl) hv

/-- **Padded evaluation.** For every lawful statistic, every per-example statistic `f`, every
dataset `xs`, every batch size `bs ≥ 1`, bucket count `B ≥ 1` and padding row `z` (whatever `f z`
is): evaluating over the padded batches that `ClientDataset.padded_batch(bs, B)` yields (C03's
`paddedView`) is the one-by-one merge of the single-example statistics of `xs` — in particular the
same for every `(bs, B)`. -/
theorem C05_padded_batch_eval {σ ε : Type} {o : StatOps σ} {V : σ → Prop} (h : Lawful o V)
    (f : ε → σ) (bs B : Nat) (hbs : 0 < bs) (hB : 0 < B) (z : ε) (xs : List ε)
    (hv : ∀ e ∈ xs, V (f e)) :
    ∃ v, Batching.paddedView bs B z xs = some v ∧
      evalModel o f (v.map fun b => (b.1, some b.2)) = xs.foldl (fun s e => o.merge s (f e)) o.zero := by
  obtain ⟨v, hv1, hv2⟩ := Batching.C03_padded_unpad bs B hbs hB z xs
  exact ⟨v, hv1, evalModel_unpad h f hv2 hv⟩

/-- **Centralised evaluation.** Evaluating over the single padded stream that
`padded_batch_client_datasets` builds from many client datasets (C15's `multiBatch`: batches span
client boundaries, only the last one is padded) is the one-by-one merge over all examples of all
clients — the same as evaluating the concatenated dataset, for every `(bs, B)` and every mix of
client sizes, including empty clients. -/
theorem C05_multi_client_eval {σ ε : Type} {o : StatOps σ} {V : σ → Prop} (h : Lawful o V)
    (f : ε → σ) (bs B : Nat) (hbs : 0 < bs) (hB : 0 < B) (z : ε) (dsets : List (List ε))
    (hv : ∀ e ∈ dsets.flatten, V (f e)) :
    ∃ v, Centralised.multiBatch bs B z dsets = some v ∧
      evalModel o f (v.map fun b => (b.1, some b.2))
        = dsets.flatten.foldl (fun s e => o.merge s (f e)) o.zero := by
  obtain ⟨v, hv1, hv2⟩ := Centralised.C15_multi_concat bs B hbs hB z dsets
  exact ⟨v, hv1, evalModel_unpad h f hv2 hv⟩

example : MeanStat.Valid ⟨3, 2⟩ ∧ MeanStat.Valid ⟨0, 0⟩ ∧ ¬ MeanStat.Valid ⟨5, -1⟩ := by
  unfold MeanStat.Valid
  decide +kernel

example : MeanStat.new 3 (-2) = ⟨0, 0⟩ ∧ MeanStat.new 3 2 = ⟨3, 2⟩ := by decide +kernel

/-- two batches (one padded with junk, one without a mask) of three examples -/
example : batchReal ([10, 99, 20], some [true, false, true]) = [10, 20] ∧
    batchReal ([30], (none : Option (List Bool))) = [30] ∧
    ([([10, 99, 20], some [true, false, true]), ([30], none)].flatMap batchReal).Perm [30, 10, 20] := by
  decide +kernel

example : (Ex.mk [1, 2] [[0, 1, 0], [0, 0, 1]] [[0, 0, 0], [0, 0, 0]] 0).WellShaped 2 := ⟨rfl, rfl, rfl⟩

-- the docstring examples of MeanStat: merge (1,2) (2,3) = (3,5) => 0.6
example : MeanStat.merge ⟨1, 2⟩ ⟨2, 3⟩ = ⟨3, 5⟩ := by decide +kernel

example : (⟨3, 5⟩ : MeanStat).result = 3 / 5 := by decide +kernel

example : MeanStat.zero.result = 0 := MeanStat.result_zero

example : VecValid 2 MeanStat.Valid [⟨1, 1⟩, ⟨0, 0⟩] := by
  unfold VecValid MeanStat.Valid
  decide +kernel

-- the masked middle row may hold anything
example (f : Nat → SumStat) :
    evalBatch sumOps f [1, 2, 3] (some [true, false, true]) = evalBatch sumOps f [1, 9, 3] (some [true, false, true]) :=
  C05_mask sumOps f _ _ _ rfl (by decide +kernel)

-- junk in the masked row, second batch without a mask feature
example (f : Nat → SumStat) :
    evalModel sumOps f [([10, 99, 20], some [true, false, true]), ([30], none)]
      = [30, 10, 20].foldl (fun s e => sumOps.merge s (f e)) sumOps.zero :=
  C05_partition_invariant sumLawful f _ _ (by decide +kernel) fun _ _ => trivial

-- a fully masked batch
example : batchReal ([5, 6], some [false, false]) = [] := by decide +kernel
example (f : Nat → MeanStat) : evalModel meanOps f [([5, 6], some [false, false])] = MeanStat.zero :=
  C05_empty meanLawful f _ (by decide +kernel)

-- sizes of nested per-domain statistics
example : ((MeanMetric.perDomain (.seqTokenAcc [0] none true) 2).size 3) = 6 := rfl
example : (SumMetric.perDomain (.confusion 3) 2).size = 18 := rfl

-- docstring example of reduce: new([1,2,4],[1,1,0]).reduce() = (3,2) => 1.5
example : MeanStat.reduce [MeanStat.new 1 1, MeanStat.new 2 1, MeanStat.new 4 0] = ⟨3, 2⟩ := by
  decide +kernel

example : batchMask (([1, 2] : List Nat), none) = [true, true] := rfl

end FedjaxVerif.Stats
