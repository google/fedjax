import FedjaxVerif.Lemmas.Algorithms
import FedjaxVerif.Props.C01
import Mathlib.Algebra.Order.Field.Rat
import Mathlib.Tactic.Ring
import Mathlib.Data.List.Nodup

/-!
# C12 — degenerate hyper-parameters reduce every algorithm to FedAvg
-/

namespace FedjaxVerif.Algorithms
open FedjaxVerif.FedAvg

/-! ## FedProx -/

theorem proxGrad_zero (g p server : P) : proxGrad 0 g p server = g := by
  unfold proxGrad
  simp only [zero_mul, add_zero]
  exact List.zipIdx_map_fst 0 g

theorem proxGrad_cons (mu x y z : Rat) (g p s : P) :
    proxGrad mu (x :: g) (y :: p) (z :: s) = (x + mu * (y - z)) :: proxGrad mu g p s := by
  unfold proxGrad
  rw [List.zipIdx_cons, List.map_cons, List.zipIdx_succ, List.map_map]
  rfl

/-- on equal shapes (the only ones JAX accepts) the proximal gradient is `g + μ·(p − server)` in
the vector vocabulary of the FedAvg model -/
theorem proxGrad_eq_vadd (mu : Rat) (g p server : P) (h1 : p.length = g.length)
    (h2 : server.length = g.length) :
    proxGrad mu g p server = vadd g (vscale mu (vsub p server)) := by
  induction g generalizing p server with
  | nil => rfl
  | cons x g ih =>
    cases p with
    | nil => cases h1
    | cons y p =>
      cases server with
      | nil => cases h2
      | cons z s =>
        rw [proxGrad_cons, ih p s (Nat.succ.inj h1) (Nat.succ.inj h2)]
        rfl

/-- the proximal penalty `½·μ·Σ (pᵢ − qᵢ)²` -/
def proxPenalty (mu : Rat) : P → P → Rat
  | x :: p, y :: q => mu / 2 * (x - y) * (x - y) + proxPenalty mu p q
  | _, _ => 0

def vdot : P → P → Rat
  | x :: p, y :: q => x * y + vdot p q
  | _, _ => 0

/-- **`μ·(p − q)` is the gradient of the proximal penalty** (the term `proxGrad` adds to the loss
gradient), as an exact expansion: moving `p` coordinate-wise by `t·v` changes `½·μ·‖p − q‖²` by
`t·⟨μ(p − q), v⟩ + ½·μ·t²·‖v‖²`. -/
theorem C12_prox_gradient (mu t : Rat) (p q v : P) (h1 : q.length = p.length)
    (h2 : v.length = p.length) :
    proxPenalty mu (vadd p (vscale t v)) q
      = proxPenalty mu p q + t * vdot (vscale mu (vsub p q)) v + mu / 2 * t * t * vdot v v := by
  induction p generalizing q v with
  | nil =>
    cases List.length_eq_zero_iff.mp h1
    cases List.length_eq_zero_iff.mp h2
    simp only [proxPenalty, vdot, vadd, vscale, vsub, List.map_nil, List.zipWith_nil_left, Rat.mul_zero,
      Rat.add_zero]
  | cons x p ih =>
    cases q with
    | nil => cases h1
    | cons y q =>
      cases v with
      | nil => cases h2
      | cons z v =>
        refine (congrArg (_ + ·) (ih q v (Nat.succ.inj h1) (Nat.succ.inj h2))).trans ?_
        simp only [vscale, vsub, List.map_cons, List.zipWith_cons_cons, proxPenalty, vdot]
        ring

/-- the gradient FedAvg has to be run with to reproduce FedProx in a round that starts from
`server`: gradient of `mean example loss + ½·μ·‖p − server‖²` -/
def augGrad {β} (mu : Rat) (grad : P → β → Key → P) (server : P) : P → β → Key → P :=
  fun p b k => proxGrad mu (grad p b k) p server

/-- the proximal client is a FedAvg client on the augmented loss: its extra field never changes -/
theorem proxClientDelta_eq {β σc} (mu : Rat) (grad : P → β → Key → P) (copt : Optimizer σc)
    (server : P) (batches : List β) (key : Key) :
    proxClientDelta mu grad copt server batches key
      = clientDelta (augGrad mu grad server) copt server batches key := by
  have h := List.foldl_rel (l := batches) (f := proxClientStep mu grad copt)
    (g := clientStep (augGrad mu grad server) copt)
    (r := fun st st' => st' = ⟨st.params, st.opt, st.rng⟩ ∧ st.serverParams = server)
    (a := proxClientInit copt server key) (b := clientInit copt server key) ⟨rfl, rfl⟩
    (fun b _ st st' h => by
      obtain ⟨rfl, rfl⟩ := h
      exact ⟨rfl, rfl⟩)
  unfold proxClientDelta clientDelta
  rw [h.1]

/-- **FedProx, any weight.** A FedProx round is a FedAvg round (same optimizers, batches, keys,
clients) run with the gradient of the loss augmented by the proximal penalty toward *this round's*
server parameters. -/
theorem C12_fedprox_aug {ι β σc σs} [DecidableEq ι] (mu : Rat) (grad : P → β → Key → P)
    (copt : Optimizer σc) (sopt : Optimizer σs) (s : ServerState σs) (clients : List (Client ι β)) :
    fedProxRound mu grad copt sopt s clients
      = round (augGrad mu grad s.params) copt sopt s clients := by
  -- `FedAvg.round` in full: with Mathlib's `round` in scope `unfold round` is ambiguous
  unfold fedProxRound FedAvg.round clientResults
  congr 1
  apply List.map_congr_left
  intro c _
  rw [proxClientDelta_eq]

theorem augGrad_zero {β} (grad : P → β → Key → P) (server : P) : augGrad 0 grad server = grad := by
  funext p b k
  exact proxGrad_zero _ _ _

/-- **FedProx with proximal weight 0 is FedAvg** (state and all). -/
theorem C12_fedprox_zero {ι β σc σs} [DecidableEq ι] (grad : P → β → Key → P)
    (copt : Optimizer σc) (sopt : Optimizer σs) (s : ServerState σs) (clients : List (Client ι β)) :
    fedProxRound 0 grad copt sopt s clients = round grad copt sopt s clients := by
  rw [C12_fedprox_aug, augGrad_zero]

/-- FedProx with proximal weight 0 is FedAvg round after round. -/
theorem C12_fedprox_zero_rounds {ι β σc σs} [DecidableEq ι] (grad : P → β → Key → P)
    (copt : Optimizer σc) (sopt : Optimizer σs) (s : ServerState σs)
    (cohorts : List (List (Client ι β))) :
    fedProxRounds 0 grad copt sopt s cohorts = rounds grad copt sopt s cohorts :=
  congrArg (List.foldl · s cohorts) (funext₂ (C12_fedprox_zero grad copt sopt))

/-- multi-round FedProx: every round is a FedAvg round on the loss augmented toward the
parameters that round started from -/
theorem C12_fedprox_aug_rounds {ι β σc σs} [DecidableEq ι] (mu : Rat) (grad : P → β → Key → P)
    (copt : Optimizer σc) (sopt : Optimizer σs) (s : ServerState σs)
    (cohorts : List (List (Client ι β))) :
    fedProxRounds mu grad copt sopt s cohorts
      = cohorts.foldl (fun s c => round (augGrad mu grad s.params) copt sopt s c) s :=
  congrArg (List.foldl · s cohorts) (funext₂ (C12_fedprox_aug mu grad copt sopt))

/-! ## losses that ignore their key -/

def KeyFree {β} (grad : P → β → Key → P) : Prop := ∀ p b k k', grad p b k = grad p b k'

theorem clientDelta_keyfree {β σc} {grad : P → β → Key → P} {copt : Optimizer σc} (hk : KeyFree grad)
    {server : P} {batches : List β} (k k' : Key) :
    clientDelta grad copt server batches k = clientDelta grad copt server batches k' := by
  unfold clientDelta
  exact congrArg (vsub server) (And.left (List.foldl_rel
    (r := fun st st' : ClientState σc => st.params = st'.params ∧ st.opt = st'.opt) ⟨rfl, rfl⟩
    fun b _ st st' h => by
      simp only [clientStep, split, h.1, h.2, hk st'.params b (st.rng ++ [true]) (st'.rng ++ [true]),
        and_self]))

/-- with a key-free loss a FedAvg round sees of each client only its id, size and batches -/
theorem round_keyfree {κ ι β σc σs : Type} [DecidableEq ι] {grad : P → β → Key → P} {copt : Optimizer σc}
    {sopt : Optimizer σs} (hk : KeyFree grad) {s : ServerState σs} (g g' : κ → Client ι β)
    (h : ∀ c, (g c).id = (g' c).id ∧ (g c).size = (g' c).size ∧ (g c).batches = (g' c).batches)
    {l : List κ} :
    FedAvg.round grad copt sopt s (l.map g) = FedAvg.round grad copt sopt s (l.map g') := by
  have hr : clientResults grad copt s.params (l.map g) = clientResults grad copt s.params (l.map g') := by
    unfold clientResults
    rw [List.map_map, List.map_map]
    refine List.map_congr_left fun c _ => ?_
    simp only [Function.comp, (h c).1, (h c).2.2, clientDelta_keyfree hk (g c).key (g' c).key]
  unfold FedAvg.round aggregate
  rw [sizeOf_map_congr fun c => ⟨(h c).1, (h c).2.1⟩, hr]

/-! ## HypCluster with a single cluster -/

/-- the FedAvg client a HypCluster client is in the expectation step: same id, size and batches,
trained with the second half of its split key -/
def trainClient {ι β γ} (c : HClient ι β γ) : Client ι β := ⟨c.id, c.size, c.batches, (split c.key).2⟩

theorem hypSums_single {ι} (p : P) (size : ι → Nat) (results : List (ι × P)) :
    hypSums [p] (fun _ => 0) size results = [accumulate size (vzero p) results] :=
  List.foldl_hom (fun a => [a]) fun _ _ => rfl

/-- **HypCluster with a single cluster**, both cases: FedAvg (each client trained with the second
half of its split key, `rng[1]`) when the cohort saw an example, no update at all when it did not. -/
theorem hypRound_single {ι β γ σc σs} [DecidableEq ι] {avgLoss : P → γ → Key → Rat}
    {splitN : Key → Nat → List Key} {grad : P → β → Key → P} {copt : Optimizer σc}
    {sopt : Optimizer σs} {cl : ServerState σs} {clients : List (HClient ι β γ)}
    (hnd : (clients.map (·.id)).Nodup) :
    hypRound avgLoss splitN grad copt sopt [cl] clients
      = [if 0 < (clients.map (·.size)).sum then FedAvg.round grad copt sopt cl (clients.map trainClient)
          else cl] := by
  have ha : dictGet (fun c : HClient ι β γ => c.id) (hypAssign avgLoss splitN [cl.params]) 0 clients
      = fun _ => 0 := funext (dictGet_const fun _ => rfl)
  have hs : FedAvg.sizeOf (clients.map (·.toClient)) = FedAvg.sizeOf (clients.map trainClient) :=
    sizeOf_map_congr fun _ => ⟨rfl, rfl⟩
  have hr : clientResults grad copt cl.params (clients.map trainClient)
      = hypResults grad copt [cl.params] (fun _ => 0) clients := List.map_map ..
  have htot : (accumulate (FedAvg.sizeOf (clients.map trainClient)) (vzero cl.params)
      (hypResults grad copt [cl.params] (fun _ => 0) clients)).2
      = ((clients.map (·.size)).sum : Nat) := by
    rw [accumulate_snd, Nat.cast_list_sum, hypResults, List.map_map, List.map_map]
    exact congrArg List.sum (List.map_congr_left fun c hc =>
      congrArg Nat.cast (sizeOf_map_of_mem trainClient clients hnd c hc))
  unfold hypRound FedAvg.round aggregate
  simp only [List.map_cons, List.map_nil]
  rw [ha, hypSums_single, hs, hr]
  refine congrArg (· :: []) ((hypServer_hypDelta sopt cl _).trans ?_)
  simp only [htot, Rat.natCast_pos]

/-- **HypCluster with a single cluster = FedAvg** on a cohort that saw at least one example: the
cluster's params and optimizer state after the round are FedAvg's, each client being trained with
the second half of its split key (`rng[1]`). -/
theorem C12_hyp_single {ι β γ σc σs} [DecidableEq ι] (avgLoss : P → γ → Key → Rat)
    (splitN : Key → Nat → List Key) (grad : P → β → Key → P) (copt : Optimizer σc)
    (sopt : Optimizer σs) (cl : ServerState σs) (clients : List (HClient ι β γ))
    (hnd : (clients.map (·.id)).Nodup) (hpos : 0 < (clients.map (·.size)).sum) :
    hypRound avgLoss splitN grad copt sopt [cl] clients
      = [round grad copt sopt cl (clients.map trainClient)] := by
  rw [hypRound_single hnd, if_pos hpos]

/-- When the loss ignores its key, HypCluster with a single cluster (on a cohort that saw at least
one example) is FedAvg on the very same clients (same keys). -/
theorem C12_hyp_single_keyfree {ι β γ σc σs} [DecidableEq ι] (avgLoss : P → γ → Key → Rat)
    (splitN : Key → Nat → List Key) (grad : P → β → Key → P) (copt : Optimizer σc)
    (sopt : Optimizer σs) (hk : KeyFree grad) (cl : ServerState σs) (clients : List (HClient ι β γ))
    (hnd : (clients.map (·.id)).Nodup) (hpos : 0 < (clients.map (·.size)).sum) :
    hypRound avgLoss splitN grad copt sopt [cl] clients
      = [round grad copt sopt cl (clients.map (·.toClient))] := by
  rw [C12_hyp_single avgLoss splitN grad copt sopt cl clients hnd hpos,
    round_keyfree hk trainClient (·.toClient) fun _ => ⟨rfl, rfl, rfl⟩]

/-- **single cluster, plain-SGD server**: no guard on the cohort — an example-free cohort leaves
both algorithms where they were. -/
theorem C12_hyp_single_sgd {ι β γ σc} [DecidableEq ι] (avgLoss : P → γ → Key → Rat)
    (splitN : Key → Nat → List Key) (grad : P → β → Key → P) (copt : Optimizer σc) (lr : Rat)
    (cl : ServerState Unit) (clients : List (HClient ι β γ))
    (hnd : (clients.map (·.id)).Nodup)
    (hlen : ∀ c ∈ clients,
      (clientDelta grad copt cl.params c.batches (split c.key).2).length = cl.params.length) :
    hypRound avgLoss splitN grad copt (sgd lr) [cl] clients
      = [round grad copt (sgd lr) cl (clients.map trainClient)] := by
  rw [hypRound_single hnd]
  split
  · rfl
  · rename_i hz
    rw [C01_sgd_fixed_point grad copt lr cl (clients.map trainClient) (by rwa [List.map_map])
      (List.forall_mem_map.mpr hlen)
      (List.forall_mem_map.mpr fun c hc =>
        List.sum_eq_zero_iff_forall_eq_nat.mp (Nat.eq_zero_of_not_pos hz) _ (List.mem_map_of_mem hc))]

/-- **HypCluster with a single cluster = FedAvg round after round** (each client trained with
`rng[1]`), when every cohort of the history saw at least one example. -/
theorem C12_hyp_single_rounds {ι β γ σc σs} [DecidableEq ι] (avgLoss : P → γ → Key → Rat)
    (splitN : Key → Nat → List Key) (grad : P → β → Key → P) (copt : Optimizer σc)
    (sopt : Optimizer σs) (cl : ServerState σs) (cohorts : List (List (HClient ι β γ)))
    (h : ∀ co ∈ cohorts, (co.map (·.id)).Nodup ∧ 0 < (co.map (·.size)).sum) :
    hypRounds avgLoss splitN grad copt sopt [cl] cohorts
      = [rounds grad copt sopt cl (cohorts.map fun co => co.map trainClient)] := by
  unfold hypRounds rounds
  rw [List.foldl_map]
  exact List.foldl_rel (r := fun s cl => s = [cl]) rfl fun co hco _ cl hs =>
    hs ▸ C12_hyp_single avgLoss splitN grad copt sopt cl co (h co hco).1 (h co hco).2

/-- Round after round with a loss that ignores its key: a single-cluster HypCluster history is the
FedAvg history on the very same clients (same keys), every cohort having seen an example. -/
theorem C12_hyp_single_rounds_keyfree {ι β γ σc σs} [DecidableEq ι] (avgLoss : P → γ → Key → Rat)
    (splitN : Key → Nat → List Key) (grad : P → β → Key → P) (copt : Optimizer σc)
    (sopt : Optimizer σs) (hk : KeyFree grad) (cl : ServerState σs)
    (cohorts : List (List (HClient ι β γ)))
    (h : ∀ co ∈ cohorts, (co.map (·.id)).Nodup ∧ 0 < (co.map (·.size)).sum) :
    hypRounds avgLoss splitN grad copt sopt [cl] cohorts
      = [rounds grad copt sopt cl (cohorts.map fun co => co.map (·.toClient))] := by
  unfold hypRounds rounds
  rw [List.foldl_map]
  exact List.foldl_rel (r := fun s cl => s = [cl]) rfl fun co hco _ cl hs =>
    hs ▸ C12_hyp_single_keyfree avgLoss splitN grad copt sopt hk cl co (h co hco).1 (h co hco).2

/-! ## MimeLite -/

/-- an optimizer whose state is frozen at `st`: MimeLite's local steps -/
def freeze {σ} (base : Optimizer σ) (st : σ) : Optimizer Unit :=
  { init := fun _ => (), apply := fun g _ p => ((), (base.apply g st p).2) }

theorem freeze_sgd (lr : Rat) : freeze (sgd lr) () = sgd lr := rfl

theorem mimeLiteClientDelta_eq {β σ} (grad : P → β → Key → P) (base : Optimizer σ) (st : σ)
    (server : P) (batches : List β) (key : Key) :
    mimeLiteClientDelta grad base st server batches key
      = clientDelta grad (freeze base st) server batches key :=
  congrArg (fun x : P × Key => vsub server x.1)
    (List.foldl_hom (fun cs : ClientState Unit => (cs.params, cs.rng))
      (init := clientInit (freeze base st) server key) fun _ _ => rfl)

theorem serverGrads_some {ι β} (grad : P → β → Key → P) (params : P) {clients : List (GClient ι β)}
    (hne : clients ≠ []) : ∃ sg, serverGrads grad params clients = some sg := by
  cases clients with
  | nil => exact absurd rfl hne
  | cons c cs => exact ⟨_, rfl⟩

/-- **MimeLite, any base optimizer**: without clipping, the new parameters are those of FedAvg with
the base optimizer *frozen at the server's optimizer state* as client optimizer and plain SGD with
the server learning rate as server optimizer. -/
theorem C12_mimelite_frozen {ι β σ} [DecidableEq ι] (nrm : P → Rat) (grad : P → β → Key → P)
    (base : Optimizer σ) (lr : Rat) (s : ServerState σ) (clients : List (GClient ι β))
    (hne : clients ≠ []) :
    ∃ sg, serverGrads grad s.params clients = some sg ∧
      mimeLiteRound nrm none grad base lr s clients
        = some { params := (round grad (freeze base s.opt) (sgd lr) ⟨s.params, ()⟩
                    (clients.map (·.toClient))).params,
                 opt := (base.apply sg s.opt s.params).1 } := by
  obtain ⟨sg, hsg⟩ := serverGrads_some grad s.params hne
  refine ⟨sg, hsg, ?_⟩
  unfold mimeLiteRound
  simp only [hsg]
  have hr : mimeLiteResults nrm none grad base s clients
      = clientResults grad (freeze base s.opt) s.params (clients.map (·.toClient)) :=
    (List.map_congr_left fun c _ => congrArg (c.id, ·) (mimeLiteClientDelta_eq ..)).trans
      (List.map_map ..).symm
  -- MimeLite writes `p − lr·mean`, the `sgd lr` server `p + (−lr)·mean`
  rw [hr, vsub_vscale]
  rfl

/-- **MimeLite with plain SGD as base optimizer = FedAvg with SGD(η) clients and SGD(server lr)
server** — the whole server state; server learning rate 1 is the case named in the property. -/
theorem C12_mimelite_sgd_lr {ι β} [DecidableEq ι] (nrm : P → Rat) (grad : P → β → Key → P)
    (η lr : Rat) (s : ServerState Unit) (clients : List (GClient ι β)) (hne : clients ≠ []) :
    mimeLiteRound nrm none grad (sgd η) lr s clients
      = some (round grad (sgd η) (sgd lr) s (clients.map (·.toClient))) := by
  obtain ⟨sg, _, h⟩ := C12_mimelite_frozen nrm grad (sgd η) lr s clients hne
  -- frozen SGD is SGD; the rest is `rfl` (the optimizer state is `()`, `s = ⟨s.params, ()⟩`)
  rw [h, freeze_sgd]

/-- **MimeLite with plain SGD(η) and server learning rate 1 = FedAvg with SGD(η) clients and an
SGD(1) server**, the whole server state (the case `lr = 1` of `C12_mimelite_sgd_lr`). -/
theorem C12_mimelite_sgd {ι β} [DecidableEq ι] (nrm : P → Rat) (grad : P → β → Key → P)
    (η : Rat) (s : ServerState Unit) (clients : List (GClient ι β)) (hne : clients ≠ []) :
    mimeLiteRound nrm none grad (sgd η) 1 s clients
      = some (round grad (sgd η) (sgd 1) s (clients.map (·.toClient))) :=
  C12_mimelite_sgd_lr nrm grad η 1 s clients hne

/-- MimeLite with plain SGD(η) as base optimizer is FedAvg with SGD(η) clients and an SGD(server lr)
server round after round (non-empty cohorts; the code raises on an empty one). -/
theorem C12_mimelite_sgd_rounds {ι β} [DecidableEq ι] (nrm : P → Rat) (grad : P → β → Key → P)
    (η lr : Rat) (s : ServerState Unit) (cohorts : List (List (GClient ι β)))
    (hne : ∀ co ∈ cohorts, co ≠ []) :
    mimeLiteRounds nrm none grad (sgd η) lr s cohorts
      = some (rounds grad (sgd η) (sgd lr) s (cohorts.map fun co => co.map (·.toClient))) := by
  unfold mimeLiteRounds rounds
  rw [List.foldl_map]
  exact ListAux.foldlM_eq_some_foldl
    (fun co hco s => C12_mimelite_sgd_lr nrm grad η lr s co (hne co hco)) s

/-! ## APFL: the global model -/

/-- the global track of an APFL client is a FedAvg client run (the sub-key it trains with differs,
which a key-free loss does not see) -/
theorem apflClientRun_delta {β σc} {split3 : Key → Key × Key × Key} {seg : List Nat}
    {grad : P → β → Key → P} {copt : Optimizer σc} (hk : KeyFree grad) {server : P}
    {st0 : ApflClientState} {batches : List β} {key : Key} :
    vsub server (apflClientRun split3 seg grad copt server st0 batches key).serverParams
      = clientDelta grad copt server batches key := by
  unfold apflClientRun clientDelta
  exact congrArg (vsub server) (And.left (List.foldl_rel
    (r := fun (st : ApflStepState σc) (st' : ClientState σc) =>
      st.serverParams = st'.params ∧ st.serverOpt = st'.opt) ⟨rfl, rfl⟩
    fun b _ st st' h => by
      simp only [apflClientStep, clientStep, split, h.1, h.2,
        hk st'.params b (split3 st.rng).2.1 (st'.rng ++ [true]), and_self]))

def apflGlobal {σs ι} (s : ApflServerState σs ι) : ServerState σs := ⟨s.params, s.opt⟩

/-- **APFL's global model = FedAvg** when the loss ignores its key: server params and server
optimizer state after a round are FedAvg's, whatever the personal models and coefficients do. -/
theorem C12_apfl_global {ι β σc σs} [DecidableEq ι] (split3 : Key → Key × Key × Key)
    (seg : List Nat) (grad : P → β → Key → P) (copt : Optimizer σc) (sopt : Optimizer σs)
    (hk : KeyFree grad) (coef0 : Rat) (s : ApflServerState σs ι) (clients : List (Client ι β)) :
    apflGlobal (apflRound split3 seg grad copt sopt coef0 s clients)
      = round grad copt sopt (apflGlobal s) clients := by
  have h : (apflOutputs split3 seg grad copt coef0 s clients).map (fun o => (o.1, o.2.2))
      = clientResults grad copt s.params clients :=
    (List.map_map ..).trans (List.map_congr_left fun c _ =>
      congrArg (c.id, ·) (apflClientRun_delta hk))
  unfold apflRound FedAvg.round apflGlobal
  dsimp only
  rw [h]

/-- Round after round: with a loss that ignores its key, the global model (params and server
optimizer state) of an APFL history is that of the FedAvg history on the same cohorts. -/
theorem C12_apfl_global_rounds {ι β σc σs} [DecidableEq ι] (split3 : Key → Key × Key × Key)
    (seg : List Nat) (grad : P → β → Key → P) (copt : Optimizer σc) (sopt : Optimizer σs)
    (hk : KeyFree grad) (coef0 : Rat) (s : ApflServerState σs ι) (cohorts : List (List (Client ι β))) :
    apflGlobal (apflRounds split3 seg grad copt sopt coef0 s cohorts)
      = rounds grad copt sopt (apflGlobal s) cohorts :=
  -- `apflGlobal` commutes with one round (`C12_apfl_global`), hence with the fold over the cohorts
  (List.foldl_hom apflGlobal fun s co => (C12_apfl_global split3 seg grad copt sopt hk coef0 s co).symm).symm

/-! ## Mime with plain SGD and a single local step -/

/-- the `(number of examples, gradient)` terms of one client's gradient pass, with the documented
key chain (`rng, use_rng = split(rng)` per batch).  A term carries its own weight, so below these
lists are summed by `accumulate id` / `accStep id` (the "client id" is the weight, its "size" `id`). -/
def gradTerms {β} (grad : P → β → Key → P) (params : P) : List (β × Nat) → Key → List (Nat × P)
  | [], _ => []
  | b :: bs, key => (b.2, grad params b.1 (split key).2) :: gradTerms grad params bs (split key).1

theorem gradsClient_eq_accumulate {β} (grad : P → β → Key → P) (params : P) (gb : List (β × Nat))
    (key : Key) :
    gradsClient grad params gb key = accumulate id (vzero params) (gradTerms grad params gb key) := by
  unfold gradsClient accumulate
  generalize (vzero params, (0 : Rat)) = a
  induction gb generalizing key a with
  | nil => rfl
  | cons b bs ih =>
    simp only [List.foldl_cons, gradTerms]
    rw [ih, vadd_comm]
    rfl

theorem gradTerms_length {β} {grad : P → β → Key → P} (hgrad : ∀ p b k, (grad p b k).length = p.length)
    {params : P} {gb : List (β × Nat)} {key : Key} :
    ∀ r ∈ gradTerms grad params gb key, r.2.length = params.length := by
  induction gb generalizing key with
  | nil => exact List.forall_mem_nil _
  | cons b bs ih => exact List.forall_mem_cons.2 ⟨hgrad _ _ _, ih⟩

/-- `tree_sum` of per-block running sums is the running sum over the concatenated blocks -/
theorem treeFold_eq_accumulate {κ ι} (size : ι → Nat) (p : P) (f : κ → List (ι × P)) (l : List κ)
    (t0 : List (ι × P)) :
    (l.map fun c => accumulate size (vzero p) (f c)).foldl (fun acc y => (vadd acc.1 y.1, acc.2 + y.2))
        (accumulate size (vzero p) t0)
      = accumulate size (vzero p) (t0 ++ (l.map f).flatten) := by
  induction l generalizing t0 with
  | nil => simp
  | cons c l ih =>
    simp only [List.map_cons, List.foldl_cons, List.flatten_cons]
    rw [← List.append_assoc, ← ih, accumulate_append, vzero_vzero]

/-- **What `G` is.** The control variate / server gradient of Mime and MimeLite is the
example-count-weighted mean (`wmean`, coordinate-wise `Σ nᵦ·gᵦ / Σ nᵦ`, zero when no example) of the
batch gradients at the server params over *all* gradient batches of *all* clients of the cohort —
for a `grad` that is the mean per-example gradient of its batch, the full-batch gradient of the
cohort. -/
theorem C12_mime_G_formula {ι β} (grad : P → β → Key → P)
    (hgrad : ∀ p b k, (grad p b k).length = p.length) (params : P) (clients : List (GClient ι β))
    (hne : clients ≠ []) :
    serverGrads grad params clients
      = some (wmean params.length
          (clients.map fun c => gradTerms grad params c.gbatches c.key).flatten) := by
  obtain ⟨c, cs, rfl⟩ := List.exists_cons_of_ne_nil hne
  unfold serverGrads
  simp only [gradsClient_eq_accumulate, List.map_cons, treeSum, Option.map_some]
  rw [treeFold_eq_accumulate, ← List.flatten_cons, inverseWeight_accumulate]
  · -- `accumulate id` pairs each term with `id` of its weight: the terms are mapped by the identity
    exact congrArg (some <| wmean params.length ·) (List.map_id' _)
  · exact List.forall_mem_flatten.2 (List.forall_mem_cons.2 ⟨gradTerms_length hgrad,
      List.forall_mem_map.2 fun _ _ => gradTerms_length hgrad⟩)

/-- one corrected SGD step from the server params moves by `η·G` whatever the batch: the two
gradients at the server params cancel and the control variate `G` remains -/
theorem mime_step_delta {η : Rat} {p g G : P} (hg : g.length = p.length) (hG : G.length = p.length) :
    vsub p (vadd p (vscale (-η) (vadd (vsub g g) G))) = vscale η G := by
  rw [FedAvg.vsub_self, vzero_vadd G g (hG.trans hg.symm).le,
    vsub_vadd_cancel p _ ((vscale_length _ G).trans hG).le, vscale_vscale, neg_mul_neg, Rat.one_mul]

theorem vsub_self_zero (p : P) : vsub p p = vzero p := FedAvg.vsub_self p

theorem mimeClientDelta_length {β} {grad : P → β → Key → P}
    (hgrad : ∀ p b k, (grad p b k).length = p.length) (η : Rat) {p G : P} (hG : G.length = p.length)
    (batches : List β) (key : Key) :
    (mimeClientDelta grad (sgd η) () p G batches key).length = p.length := by
  have h : (batches.foldl (mimeClientStep grad (sgd η) () p G) (p, key)).1.length = p.length :=
    List.foldlRecOn (motive := fun st : P × Key => st.1.length = p.length) batches _ rfl
      fun st hst b _ => by
        simp only [mimeClientStep, sgd, split, vadd_length, vsub_length, vscale_length, hgrad, hst, hG,
          Nat.min_self]
  rw [mimeClientDelta, vsub_length, h, Nat.min_self]

/-- Mime with plain SGD on the FedAvg skeleton: the round moves the parameters by `lr` times the
example-count-weighted mean of the client deltas, whatever the number of local steps. -/
theorem mimeRound_sgd {ι β} [DecidableEq ι] {grad : P → β → Key → P}
    (hgrad : ∀ p b k, (grad p b k).length = p.length) (η lr : Rat) (s : ServerState Unit)
    {clients : List (GClient ι β)} (hne : clients ≠ []) (hnd : (clients.map (·.id)).Nodup) :
    ∃ G, serverGrads grad s.params clients = some G ∧ G.length = s.params.length ∧
      mimeRound grad (sgd η) lr s clients
        = some ⟨vsub s.params (vscale lr (wmean s.params.length (clients.map fun c =>
            (c.size, mimeClientDelta grad (sgd η) () s.params G c.batches c.key)))), ()⟩ := by
  obtain ⟨G, hG⟩ := serverGrads_some grad s.params hne
  have hGl : G.length = s.params.length := by
    rw [C12_mime_G_formula grad hgrad s.params clients hne] at hG
    rw [← Option.some.inj hG, wmean, List.length_map, List.length_range]
  refine ⟨G, hG, hGl, ?_⟩
  unfold mimeRound
  simp only [hG]
  rw [accumulate_mean (·.toClient) clients hnd _ s.params fun c _ =>
    mimeClientDelta_length hgrad η hGl c.batches c.key]

/-- **Mime, plain SGD(η), exactly one local step per client with examples**: the round is one
full-batch gradient step `p − η_server·η·G`, `G` being the example-weighted gradient of the cohort
at the server params that the first pass computes (`serverGrads`). -/
theorem C12_mime_one_step {ι β} [DecidableEq ι] (grad : P → β → Key → P)
    (hgrad : ∀ p b k, (grad p b k).length = p.length) (η lr : Rat) (s : ServerState Unit)
    (clients : List (GClient ι β)) (hnd : (clients.map (·.id)).Nodup)
    (hone : ∀ c ∈ clients, c.batches.length ≤ 1 ∧ (c.size ≠ 0 → c.batches.length = 1))
    (hpos : 0 < (clients.map (·.size)).sum) :
    ∃ G, serverGrads grad s.params clients = some G ∧
      mimeRound grad (sgd η) lr s clients
        = some ⟨vsub s.params (vscale lr (vscale η G)), ()⟩ := by
  have hne : clients ≠ [] := by
    rintro rfl
    exact absurd hpos (lt_irrefl 0)
  obtain ⟨G, hG, hGl, hr⟩ := mimeRound_sgd hgrad η lr s hne hnd
  have hδ : ∀ c ∈ clients, c.size = 0 ∨
      mimeClientDelta grad (sgd η) () s.params G c.batches c.key = vscale η G := by
    -- only `.2` of `hone` is used: the delta of a client without examples carries no weight
    intro c hc
    refine (Nat.eq_zero_or_pos c.size).imp_right fun h => ?_
    obtain ⟨b, hb⟩ := List.length_eq_one_iff.mp ((hone c hc).2 (Nat.ne_of_gt h))
    rw [hb]
    exact mime_step_delta (hgrad _ _ _) hGl
  refine ⟨G, hG, ?_⟩
  -- every delta that carries weight is `η·G`, so that is their weighted mean (`wmean_const`, which
  -- wants the dimension written as `(vscale η G).length`)
  rw [hr, ← hGl, ← vscale_length η G,
    wmean_const _ _ (List.forall_mem_map.mpr hδ) (by rwa [List.map_map])]

/-- with plain SGD a cohort without any example leaves Mime where it was, whatever the local steps -/
theorem mimeRound_no_examples {ι β} [DecidableEq ι] {grad : P → β → Key → P}
    (hgrad : ∀ p b k, (grad p b k).length = p.length) {η lr : Rat} {s : ServerState Unit}
    {clients : List (GClient ι β)} (hne : clients ≠ []) (hnd : (clients.map (·.id)).Nodup)
    (hzero : (clients.map (·.size)).sum = 0) :
    mimeRound grad (sgd η) lr s clients = some s := by
  obtain ⟨G, -, -, hr⟩ := mimeRound_sgd hgrad η lr s hne hnd
  rw [hr, wmean_all_zero _ _ (List.forall_mem_map.mpr fun c hc =>
      List.sum_eq_zero_iff_forall_eq_nat.mp hzero _ (List.mem_map_of_mem hc)),
    ← vzero_eq_replicate, vscale_vzero, vsub_vzero _ _ le_rfl]

/-- Under the hypotheses of `C12_mime_one_step` but without any example in the (non-empty) cohort,
the round leaves the parameters where they were. -/
theorem C12_mime_one_step_empty {ι β} [DecidableEq ι] (grad : P → β → Key → P)
    (hgrad : ∀ p b k, (grad p b k).length = p.length) (η lr : Rat) (s : ServerState Unit)
    (clients : List (GClient ι β)) (hne : clients ≠ []) (hnd : (clients.map (·.id)).Nodup)
    (hone : ∀ c ∈ clients, c.batches.length ≤ 1 ∧ (c.size ≠ 0 → c.batches.length = 1))
    (hzero : (clients.map (·.size)).sum = 0) :
    mimeRound grad (sgd η) lr s clients = some s :=
  -- `hone` is not needed: with all weights zero the deltas do not enter the mean
  mimeRound_no_examples hgrad hne hnd hzero

/-- one Mime round as a gradient step on the cohort (the step function of `C12_mime_one_step`) -/
def mimeGD {ι β} (grad : P → β → Key → P) (η lr : Rat) (s : ServerState Unit) (clients : List (GClient ι β)) :
    ServerState Unit :=
  match serverGrads grad s.params clients with
  | some G => ⟨vsub s.params (vscale lr (vscale η G)), ()⟩
  | none => s

/-- **round after round**: under the one-step hypotheses a Mime history is the iteration of
full-batch gradient steps `p ← p − η_server·η·G(p, cohort)`. -/
theorem C12_mime_one_step_rounds {ι β} [DecidableEq ι] (grad : P → β → Key → P)
    (hgrad : ∀ p b k, (grad p b k).length = p.length) (η lr : Rat) (s : ServerState Unit)
    (cohorts : List (List (GClient ι β)))
    (h : ∀ co ∈ cohorts, (co.map (·.id)).Nodup ∧ 0 < (co.map (·.size)).sum ∧
      ∀ c ∈ co, c.batches.length ≤ 1 ∧ (c.size ≠ 0 → c.batches.length = 1)) :
    mimeRounds grad (sgd η) lr s cohorts = some (cohorts.foldl (mimeGD grad η lr) s) := by
  refine ListAux.foldlM_eq_some_foldl (fun co hco s => ?_) s
  obtain ⟨hnd, hpos, hone⟩ := h co hco
  obtain ⟨G, hG, hr⟩ := C12_mime_one_step grad hgrad η lr s co hnd hone hpos
  rw [hr, mimeGD, hG]

/-! ## the guard of `C12_hyp_single` is needed (known finding) -/

-- `exGrad`, and `exClients` further down, are the example gradient and cohort of `Props/C01.lean`
/-- An all-empty cohort with a *stateful* server optimizer: FedAvg applies a zero update and the
momentum term still moves the parameters (`1 ↦ 1/2`), single-cluster HypCluster skips the update.
This is why `C12_hyp_single` assumes at least one example; the real code shows the same difference
(known finding `C12/hyp-single/empty-cohort-stateful-server-opt`). -/
theorem C12_hyp_single_guard_needed :
    let cl : ServerState P := ⟨[1], [1]⟩
    let clients : List (HClient Nat Nat Unit) := [⟨⟨7, 0, [], [false]⟩, ()⟩]
    (hypRound (fun _ _ _ => 0) (fun _ _ => []) exGrad (sgd (1/2)) (momentum 1 (1/2) false) [cl] clients).map (·.params)
        = [[1]] ∧
      (round exGrad (sgd (1/2)) (momentum 1 (1/2) false) cl (clients.map trainClient)).params = [1/2] := by
  decide +kernel

example : KeyFree exGrad := fun _ _ _ _ => rfl
example : ∀ p b k, (exGrad p b k).length = p.length := fun p _ _ => vscale_length _ p

-- FedProx with a positive weight really differs from FedAvg on the example cohort, weight 0 does not
example : (fedProxRound 1 exGrad (sgd (1/2)) (sgd 1) ⟨[1, 2], ()⟩ exClients).params
    ≠ (round exGrad (sgd (1/2)) (sgd 1) ⟨[1, 2], ()⟩ exClients).params := by decide +kernel
example : (fedProxRound 0 exGrad (sgd (1/2)) (sgd 1) ⟨[1, 2], ()⟩ exClients).params = [0, 0] := by
  decide +kernel

def exHClients : List (HClient Nat Nat Unit) := exClients.map fun c => ⟨c, ()⟩
def exGClients : List (GClient Nat Nat) := [⟨⟨7, 2, [1], [false]⟩, [(1, 2)]⟩, ⟨⟨8, 0, [], [true, false]⟩, []⟩]

example : (exHClients.map (·.id)).Nodup ∧ 0 < (exHClients.map (·.size)).sum := by decide
example : (hypRound (fun _ _ _ => 0) (fun _ _ => []) exGrad (sgd (1/2)) (momentum 1 (1/2) false)
    [⟨[1, 2], [0, 0]⟩] exHClients).map (·.params) = [[0, 0]] := by decide +kernel
example : exGClients ≠ [] := by decide
example : (exGClients.map (·.id)).Nodup ∧ 0 < (exGClients.map (·.size)).sum ∧
    ∀ c ∈ exGClients, c.batches.length ≤ 1 ∧ (c.size ≠ 0 → c.batches.length = 1) := by decide
example : (mimeRound exGrad (sgd (1/2)) (1/2) ⟨[1, 2], ()⟩ exGClients).map (·.params) = some [3/4, 3/2] := by
  decide +kernel
example : (mimeLiteRound (fun _ => 0) none exGrad (sgd (1/2)) 1 ⟨[1, 2], ()⟩ exGClients).map (·.params)
    = some (round exGrad (sgd (1/2)) (sgd 1) ⟨[1, 2], ()⟩ (exGClients.map (·.toClient))).params := by
  decide +kernel
example : (apflRound (fun k => (k ++ [false, false], k ++ [false, true], k ++ [true, false])) [2] exGrad
    (sgd (1/2)) (sgd 1) (1/2) ⟨[1, 2], (), []⟩ exClients).params = [0, 0] := by decide +kernel

example : gradTerms exGrad [1, 2] [((1 : Nat), 2), (3, 1)] [false] = [(2, [1, 2]), (1, [3, 6])] := by decide +kernel
example : serverGrads exGrad [1, 2] exGClients = some [1, 2] := by decide +kernel
example : (mimeRounds exGrad (sgd (1/2)) (1/2) ⟨[1, 2], ()⟩ [exGClients, exGClients]).map (·.params)
    = some [9/16, 9/8] := by decide +kernel
example : (fedProxRounds 0 exGrad (sgd (1/2)) (sgd 1) ⟨[1, 2], ()⟩ [exClients, exClients]).params = [0, 0] := by
  decide +kernel
example : (hypRounds (fun _ _ _ => 0) (fun _ _ => []) exGrad (sgd (1/2)) (sgd 1)
    [⟨[1, 2], ()⟩] [exHClients, exHClients]).map (·.params) = [[0, 0]] := by decide +kernel
example : (mimeLiteRounds (fun _ => 0) none exGrad (sgd (1/2)) 1 ⟨[1, 2], ()⟩ [exGClients, exGClients]).map (·.params)
    = some (rounds exGrad (sgd (1/2)) (sgd 1) ⟨[1, 2], ()⟩ [exGClients.map (·.toClient), exGClients.map (·.toClient)]).params := by
  decide +kernel
example : (apflRounds (fun k => (k ++ [false, false], k ++ [false, true], k ++ [true, false])) [2] exGrad
    (sgd (1/4)) (sgd 1) (1/2) ⟨[1, 2], (), []⟩ [exClients, exClients]).params
    = (rounds exGrad (sgd (1/4)) (sgd 1) ⟨[1, 2], ()⟩ [exClients, exClients]).params := by decide +kernel
example : proxGrad 2 [1, 1] [3, 5] [1, 1] = [5, 9] := by decide +kernel
example : mimeRound exGrad (sgd (1/2)) 1 ⟨[1, 2], ()⟩ ([] : List (GClient Nat Nat)) = none := by decide +kernel

/-- a cohort that lists client 7 twice (same id, its own key): `C12_fedprox_zero` needs no
distinct-ids hypothesis, and every listed entry counts in numerator and denominator
(weights 2, 1, 2 — not 2, 1) -/
def exDup : List (Client Nat Nat) :=
  [⟨7, 2, [1, 2], [false]⟩, ⟨8, 1, [1], [true, false]⟩, ⟨7, 2, [1, 2], [true, true, false]⟩]
example : fedProxRound 0 exGrad (sgd (1/2)) (sgd 1) ⟨[1, 2], ()⟩ exDup
    = round exGrad (sgd (1/2)) (sgd 1) ⟨[1, 2], ()⟩ exDup := C12_fedprox_zero _ _ _ _ _
example : (FedAvg.round exGrad (sgd (1/2)) (sgd 1) ⟨[1, 2], ()⟩ exDup).params = [1/10, 1/5] ∧
    (FedAvg.round exGrad (sgd (1/2)) (sgd 1) ⟨[1, 2], ()⟩ (exDup.take 2)).params = [1/6, 1/3] := by decide +kernel

end FedjaxVerif.Algorithms
