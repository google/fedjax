import FedjaxVerif.Model.Purity
import FedjaxVerif.Lemmas.FedAvgVec
import FedjaxVerif.Lemmas.ListAux
import Mathlib.Data.List.Nodup

/-!
# C10 — a training round is a pure function of (server state, clients)

In Lean a round *is* a function: `round s c = round s c` holds by `rfl` and says nothing about
Python, so it is **not** stated here.  That the real `apply` does not write into the caller's
containers, does not donate the caller's buffers and keeps no state outside its arguments is
decided on every run by the correspondence monitor (harness/props/c10.py), on generated
histories only — this is why the property is labelled *partial*.

What is proved is the logic of the state that must flow explicitly (model: `Model/Purity.lean`):
APFL's client-state table, the `(bits, key)` state of the compression aggregators, histories with
save/load round trips, agnostic FedAvg's sliding window.
-/

namespace FedjaxVerif.Purity
open FedjaxVerif.FedAvg (P Optimizer ServerState)

/-! ## tables

A table is used only through its lookup function `get?`: its key set is where `get?` is defined
(`mem_keys_iff`), and the last assignment of a list is a lookup in the reversed list. -/

namespace Table
variable {ι α : Type} [DecidableEq ι]

theorem get?_cons (p : ι × α) (t : Table ι α) (i : ι) :
    get? (p :: t) i = if p.1 = i then some p.2 else get? t i := by
  unfold get?
  rw [List.find?_cons]
  by_cases h : p.1 = i <;> simp [h]

theorem get?_append (t u : Table ι α) (i : ι) : get? (t ++ u) i = (get? t i).or (get? u i) := by
  simp only [get?, List.find?_append, Option.map_or]

theorem get?_set (t : Table ι α) (i j : ι) (v : α) :
    (t.set i v).get? j = if i = j then some v else t.get? j := by
  induction t with
  | nil => exact get?_cons ..
  | cons p t ih =>
    rw [set]
    by_cases hp : p.1 = i
    · rw [if_pos hp, get?_cons, get?_cons, hp]
      by_cases hj : i = j
      · rw [if_pos hj, if_pos hj]
      · rw [if_neg hj, if_neg hj, if_neg hj]
    · rw [if_neg hp, get?_cons, get?_cons, ih]
      by_cases hj : p.1 = j
      · rw [if_pos hj, if_pos hj, if_neg (hj ▸ Ne.symm hp)]
      · rw [if_neg hj, if_neg hj]

theorem mem_keys_iff (t : Table ι α) (i : ι) : i ∈ t.keys ↔ (t.get? i).isSome := by
  simp only [keys, get?, List.mem_map, Option.isSome_map, List.find?_isSome, decide_eq_true_eq]

theorem get?_eq_none {t : Table ι α} {i : ι} : t.get? i = none ↔ i ∉ t.keys := by
  rw [mem_keys_iff, Bool.not_eq_true, Option.isSome_eq_false_iff, Option.isNone_iff_eq_none]

theorem get?_of_mem {t : Table ι α} (hnd : t.keys.Nodup) {r : ι × α} (hr : r ∈ t) :
    t.get? r.1 = some r.2 := by
  rw [get?, ListAux.find?_of_nodup_map (fun p : ι × α => p.1) hnd hr fun _ => decide_eq_true_iff]
  rfl

/-- the last assignment to `i` in a list of assignments -/
def lastFor (rs : List (ι × α)) (i : ι) : Option α :=
  (rs.reverse.find? (fun r => r.1 = i)).map (·.2)

theorem lastFor_eq_get? (rs : List (ι × α)) (i : ι) : lastFor rs i = get? rs.reverse i := rfl

theorem lastFor_eq_none {rs : List (ι × α)} {i : ι} : lastFor rs i = none ↔ i ∉ keys rs := by
  rw [lastFor_eq_get?, get?_eq_none, keys, keys, List.map_reverse, List.mem_reverse]

theorem lastFor_of_nodup {rs : List (ι × α)} (hnd : (keys rs).Nodup) {r : ι × α} (hr : r ∈ rs) :
    lastFor rs r.1 = some r.2 :=
  get?_of_mem (by rwa [keys, List.map_reverse, List.nodup_reverse]) (List.mem_reverse.mpr hr)

theorem get?_setAll (t : Table ι α) (rs : List (ι × α)) (i : ι) :
    (t.setAll rs).get? i = (lastFor rs i).or (t.get? i) := by
  induction rs generalizing t with
  | nil => rfl
  | cons r rs ih =>
    -- `(r :: rs).reverse = rs.reverse ++ [r]`: the first assignment is the last one looked up
    rw [setAll, List.foldl_cons, ← setAll, ih, get?_set, lastFor_eq_get?, lastFor_eq_get?,
      List.reverse_cons, get?_append, get?_cons, Option.or_assoc]
    split <;> rfl

theorem mem_keys_setAll (t : Table ι α) (rs : List (ι × α)) (i : ι) :
    i ∈ (t.setAll rs).keys ↔ i ∈ t.keys ∨ i ∈ keys rs := by
  rw [mem_keys_iff, get?_setAll, Option.isSome_or, Bool.or_eq_true, ← mem_keys_iff, or_comm,
    ← Option.ne_none_iff_isSome, Ne, lastFor_eq_none, not_not]

end Table

/-! ## APFL: the per-client state table -/

section apfl
variable {β σc σs ι : Type} [DecidableEq ι]

/-- the new persistent state of participant `i` according to the round's results (last one wins) -/
def resultFor (rs : List (ι × ClientSt × P)) (i : ι) : Option ClientSt :=
  Table.lastFor (rs.map fun r => (r.1, r.2.1)) i

theorem keys_apflResults (grad : P → β → NKey → P) (copt : Optimizer σc) (c0 : Rat) (s : AState ι σs)
    (clients : List (AClient ι β)) :
    Table.keys ((apflResults grad copt c0 s clients).map fun r => (r.1, r.2.1))
      = clients.map (·.id) := by
  simp only [Table.keys, apflResults, List.map_map, Function.comp_def]

/-- **Table update.** After a round the table maps every participating id to the state its training
produced in this round and every other id to what the *input* table held. -/
theorem C10_apfl_table (grad : P → β → NKey → P) (copt : Optimizer σc) (sopt : Optimizer σs)
    (c0 : Rat) (s : AState ι σs) (clients : List (AClient ι β)) (i : ι) :
    (apflRound grad copt sopt c0 s clients).table.get? i
      = (resultFor (apflResults grad copt c0 s clients) i).or (s.table.get? i) :=
  Table.get?_setAll _ _ _

/-- **Frame.** The entry of an id that did not participate is the input's entry. -/
theorem C10_apfl_table_frame (grad : P → β → NKey → P) (copt : Optimizer σc) (sopt : Optimizer σs)
    (c0 : Rat) (s : AState ι σs) (clients : List (AClient ι β)) (i : ι)
    (hi : ∀ c ∈ clients, c.id ≠ i) :
    (apflRound grad copt sopt c0 s clients).table.get? i = s.table.get? i := by
  rw [C10_apfl_table, resultFor, Table.lastFor_eq_none.mpr, Option.none_or]
  -- left over: the argument of `lastFor_eq_none.mpr`, `i` is no key of the results
  rw [keys_apflResults, List.mem_map]
  exact fun ⟨c, hc, e⟩ => hi c hc e

/-- **Participants start from the input table.** With pairwise distinct ids, the new entry of a
participant is its training started from the server params and from the entry the *input* table
holds for it (or the default state) — never from a state written earlier in the same round or by
an earlier call. -/
theorem C10_apfl_reads_input (grad : P → β → NKey → P) (copt : Optimizer σc) (sopt : Optimizer σs)
    (c0 : Rat) (s : AState ι σs) (clients : List (AClient ι β))
    (hnd : (clients.map (·.id)).Nodup) (c : AClient ι β) (hc : c ∈ clients) :
    (apflRound grad copt sopt c0 s clients).table.get? c.id
      = some (trainClient grad copt s.server.params
          (s.table.getD c.id (defaultSt s.server.params c0)) c).1 := by
  have hmem : (c.id, (trainClient grad copt s.server.params
      (s.table.getD c.id (defaultSt s.server.params c0)) c).1) ∈
      (apflResults grad copt c0 s clients).map fun r => (r.1, r.2.1) :=
    List.mem_map.mpr ⟨_, List.mem_map_of_mem hc, rfl⟩
  rw [C10_apfl_table, resultFor, Table.lastFor_of_nodup (by rwa [keys_apflResults]) hmem,
    Option.some_or]

/-- **Key set.** The ids of the new table are the ids of the input table plus the participants. -/
theorem C10_apfl_table_keys (grad : P → β → NKey → P) (copt : Optimizer σc) (sopt : Optimizer σs)
    (c0 : Rat) (s : AState ι σs) (clients : List (AClient ι β)) (i : ι) :
    i ∈ (apflRound grad copt sopt c0 s clients).table.keys
      ↔ i ∈ s.table.keys ∨ ∃ c ∈ clients, c.id = i := by
  rw [apflRound, Table.mem_keys_setAll, keys_apflResults, List.mem_map]

/-- **Only a participant's own entry matters.** Two input states with the same server part whose
tables agree at the ids of the participants give the same per-client results (new states and
deltas) — whatever else the tables hold, and in particular whether or not *other* clients have an
entry.  (The harness tests exactly this: removing one returning client's entry changes that
client's new entry and nobody else's.) -/
theorem C10_apfl_entry_local (grad : P → β → NKey → P) (copt : Optimizer σc) (c0 : Rat)
    (s s' : AState ι σs) (clients : List (AClient ι β)) (hs : s.server = s'.server)
    (ht : ∀ c ∈ clients, s.table.get? c.id = s'.table.get? c.id) :
    apflResults grad copt c0 s clients = apflResults grad copt c0 s' clients := by
  unfold apflResults
  apply List.map_congr_left
  intro c hc
  rw [Table.getD, ht c hc, hs, ← Table.getD]

/-- **The table matters only as a map.** Two input states with the same server part whose tables
agree as maps (e.g. a restored copy whose dict is ordered differently) give the same new server
state and tables that again agree as maps. -/
theorem C10_apfl_map_congr (grad : P → β → NKey → P) (copt : Optimizer σc) (sopt : Optimizer σs)
    (c0 : Rat) (s s' : AState ι σs) (clients : List (AClient ι β))
    (hs : s.server = s'.server) (ht : ∀ i, s.table.get? i = s'.table.get? i) :
    (apflRound grad copt sopt c0 s clients).server = (apflRound grad copt sopt c0 s' clients).server
    ∧ ∀ i, (apflRound grad copt sopt c0 s clients).table.get? i
          = (apflRound grad copt sopt c0 s' clients).table.get? i := by
  have hr := C10_apfl_entry_local grad copt c0 s s' clients hs fun c _ => ht c.id
  refine ⟨?_, fun i => ?_⟩
  · rw [apflRound, apflRound, hr, hs]
  · rw [C10_apfl_table, C10_apfl_table, hr, ht]

/-- fold invariant of the in-place code: as long as the threaded dict still agrees with the input
table at the ids yet to come, reading it is reading the input -/
theorem inplace_fold (grad : P → β → NKey → P) (copt : Optimizer σc) (c0 : Rat) (s : AState ι σs)
    (cs : List (AClient ι β)) (T : Table ι ClientSt) (L : List (ι × P))
    (hnd : (cs.map (·.id)).Nodup) (hT : ∀ c ∈ cs, T.get? c.id = s.table.get? c.id) :
    cs.foldl (fun (acc : Table ι ClientSt × List (ι × P)) c =>
      let r := trainClient grad copt s.server.params
        (acc.1.getD c.id (defaultSt s.server.params c0)) c
      (acc.1.set c.id r.1, acc.2 ++ [(c.id, r.2)])) (T, L)
    = (T.setAll ((apflResults grad copt c0 s cs).map fun r => (r.1, r.2.1)),
       L ++ (apflResults grad copt c0 s cs).map fun r => (r.1, r.2.2)) := by
  induction cs generalizing T L with
  | nil => exact Prod.ext rfl (List.append_nil L).symm
  | cons c cs ih =>
    rw [List.map_cons, List.nodup_cons] at hnd
    rw [List.forall_mem_cons] at hT
    rw [List.foldl_cons, ih _ _ hnd.2, Table.getD, hT.1, List.append_assoc]
    · rfl
    · -- `hT` of `ih`: the table after `set c.id` still agrees with the input at the later ids
      intro c' hc'
      rw [Table.get?_set, if_neg fun e : c.id = c'.id => hnd.1 (e ▸ List.mem_map_of_mem hc'),
        hT.2 c' hc']

/-- **A single call of the in-place code is right.** For pairwise distinct ids the code as it stood
(one dict read and written while looping) returns exactly the state of `apflRound`; the defect is
not in the value returned by one call but in what happens to the caller's dict. -/
theorem C10_apfl_inplace_agrees (grad : P → β → NKey → P) (copt : Optimizer σc) (sopt : Optimizer σs)
    (c0 : Rat) (s : AState ι σs) (clients : List (AClient ι β))
    (hnd : (clients.map (·.id)).Nodup) :
    apflRoundInPlace grad copt sopt c0 s clients = apflRound grad copt sopt c0 s clients := by
  rw [apflRoundInPlace, inplace_fold grad copt c0 s clients s.table [] hnd fun _ _ => rfl]
  rfl

/-- **The call-twice monitor exposes an in-place table.** Under the in-place code the caller's
state holds the *output* table after the first call.  If some participant's training is not
idempotent (training again from its new state moves it), the second call with "the same" state
returns a different table — so the monitor's comparison of two identical calls fails. -/
theorem C10_alias_detected (grad : P → β → NKey → P) (copt : Optimizer σc) (sopt : Optimizer σs)
    (c0 : Rat) (s : AState ι σs) (clients : List (AClient ι β))
    (hnd : (clients.map (·.id)).Nodup) (c : AClient ι β) (hc : c ∈ clients)
    (hmove :
      (trainClient grad copt s.server.params
        (trainClient grad copt s.server.params
          (s.table.getD c.id (defaultSt s.server.params c0)) c).1 c).1
      ≠ (trainClient grad copt s.server.params
          (s.table.getD c.id (defaultSt s.server.params c0)) c).1) :
    let out1 := apflRoundInPlace grad copt sopt c0 s clients
    let out2 := apflRoundInPlace grad copt sopt c0 ⟨s.server, out1.table⟩ clients
    out2.table ≠ out1.table := by
  intro out1 out2 heq
  -- `c`'s entry after each call is its training from the entry the call found
  have h1 := C10_apfl_reads_input grad copt sopt c0 s clients hnd c hc
  have h2 := C10_apfl_reads_input grad copt sopt c0 ⟨s.server, out1.table⟩ clients hnd c hc
  rw [← C10_apfl_inplace_agrees grad copt sopt c0 _ clients hnd] at h1 h2
  rw [show (apflRoundInPlace grad copt sopt c0 ⟨s.server, out1.table⟩ clients).table = out1.table
    from heq, Table.getD, h1] at h2
  exact hmove (Option.some.inj h2).symm

/-- **Multi-round.** A run of `t+1` rounds is round `t+1` applied to the state (server part *and*
table) that `t` rounds produced: nothing else is carried. -/
theorem C10_apfl_multi_round (grad : P → β → NKey → P) (copt : Optimizer σc) (sopt : Optimizer σs)
    (c0 : Rat) (s : AState ι σs) (cohorts : List (List (AClient ι β))) (cohort : List (AClient ι β)) :
    apflRounds grad copt sopt c0 s (cohorts ++ [cohort])
      = apflRound grad copt sopt c0 (apflRounds grad copt sopt c0 s cohorts) cohort :=
  List.foldl_concat ..

end apfl

/-! ## compression aggregators -/

theorem prefix_child {k : NKey} {i : Nat} : k <+: child k i := List.prefix_append _ _

theorem prefix_seqKey {k : NKey} {i : Nat} : k <+: seqKey k i := by
  unfold seqKey
  rw [List.append_assoc]
  exact List.prefix_append _ _

/-- **Next state.** One `apply` returns the state `(bits + Δ, carried key)`; the carried key is
`split(rng)[0]` (`split(split(rng)[0])[0]` for the rotated quantizer), the accounting adds the
bits of this round. -/
theorem C10_compression_state {ι : Type} (rotated : Bool) (quant : Option NKey → NKey → P → P)
    (newBits : List (P × Rat) → Rat) (inputs : List (ι × P × Rat)) (st : CompState) :
    (compApply rotated quant newBits inputs st).2
      = ⟨st.bits + newBits (quantised quant (roundKeys rotated st.rng) inputs),
         if rotated then child (child st.rng 0) 0 else child st.rng 0⟩ := by
  cases rotated <;> rfl

/-- bits only ever grow by the per-round amounts -/
theorem C10_compression_bits {ι : Type} (rotated : Bool) (quant : Option NKey → NKey → P → P)
    (newBits : List (P × Rat) → Rat) (inputs : List (ι × P × Rat)) (st : CompState) :
    (compApply rotated quant newBits inputs st).2.bits - st.bits
      = newBits (quantised quant (roundKeys rotated st.rng) inputs) :=
  add_sub_cancel_left _ _

theorem roundKeys_below (rotated : Bool) (k : NKey) :
    k <+: (roundKeys rotated k).use ∧ ∀ r ∈ (roundKeys rotated k).rot, k <+: r := by
  cases rotated
  · refine ⟨prefix_child, fun r hr => ?_⟩
    cases hr
  · refine ⟨prefix_child.trans prefix_child, fun r hr => ?_⟩
    obtain rfl : child k 1 = r := Option.some.inj hr
    exact prefix_child

/-- **No hidden state.** The output and the next state are determined by `(inputs, state)` and by
the quantizer *restricted to keys derived from the state key*: two quantizers that agree on all
keys below `state.rng` give identical results.  In particular there is no other source of
randomness (no global counter, no key from outside the state). -/
theorem C10_compression_local {ι : Type} (rotated : Bool) (quant quant' : Option NKey → NKey → P → P)
    (newBits : List (P × Rat) → Rat) (inputs : List (ι × P × Rat)) (st : CompState)
    (h : ∀ rot key p, st.rng <+: key → (∀ r ∈ rot, st.rng <+: r) → quant rot key p = quant' rot key p) :
    compApply rotated quant newBits inputs st = compApply rotated quant' newBits inputs st := by
  have hq : quantised quant (roundKeys rotated st.rng) inputs
      = quantised quant' (roundKeys rotated st.rng) inputs := by
    unfold quantised
    apply List.map_congr_left
    intro x _
    obtain ⟨huse, hrot⟩ := roundKeys_below rotated st.rng
    rw [h _ _ _ (huse.trans prefix_seqKey) hrot]
  simp only [compApply, hq]

open FedjaxVerif.FedAvg (vadd vscale) in
theorem fold_zero_weights {d : Nat} {xs : List P} (hx : ∀ p ∈ xs, p.length = d) {a : P}
    (ha : a.length = d) (w : Rat) :
    (xs.map fun p => (p, (0 : Rat))).foldl
      (fun (acc : P × Rat) x => (vadd acc.1 (vscale x.2 x.1), acc.2 + x.2)) (a, w) = (a, w) := by
  induction xs with
  | nil => rfl
  | cons p xs ih =>
    rw [List.map_cons, List.foldl_cons, FedAvg.vscale_zero,
      FedAvg.vadd_vzero a p (ha.trans (hx p List.mem_cons_self).symm).le, add_zero]
    exact ih fun q hq => hx q (List.mem_cons_of_mem _ hq)

open FedjaxVerif.FedAvg (vadd vscale) in
/-- **One-hot weights isolate a client.** With weight `1` for one client and `0` for all others the
aggregate is exactly that client's quantised value: this is how the harness reads the per-client
quantised values off the real aggregator without replicating its key stream. -/
theorem C10_wmean_onehot (d : Nat) (pre post : List P) (q : P) (hq : q.length = d)
    (hpre : ∀ p ∈ pre, p.length = d) (hpost : ∀ p ∈ post, p.length = d) :
    wmean ((pre.map fun p => (p, (0 : Rat))) ++ (q, 1) :: post.map fun p => (p, (0 : Rat))) = some q := by
  have hfin : vscale (if (1 : Rat) > 0 then 1 / 1 else 0) q = q := by
    rw [if_pos (by decide), div_one, FedAvg.vscale_one]
  cases pre with
  | nil =>
    rw [List.map_nil, List.nil_append, wmean, FedAvg.vscale_one, fold_zero_weights hpost hq 1]
    exact congrArg some hfin
  | cons p0 pre =>
    rw [List.forall_mem_cons] at hpre
    -- the sum starts at `0·p0`, stays there over `pre`, becomes `q` at the one-hot client and
    -- stays there over `post`
    rw [List.map_cons, List.cons_append, wmean, List.foldl_append, FedAvg.vscale_zero,
      fold_zero_weights hpre.2 ((FedAvg.vzero_length p0).trans hpre.1) 0, List.foldl_cons,
      FedAvg.vscale_one, FedAvg.vzero_vadd q p0 (hq.trans hpre.1.symm).le, Rat.zero_add,
      fold_zero_weights hpost hq 1]
    exact congrArg some hfin

/-! ### keys

Every key a run hands out is `seqKey k n` for the run's initial key `k`, and these are pairwise
prefix-free. -/

/-- **Clients get different keys.** Within a round client `a` and client `b ≠ a` are quantised
with unrelated keys. -/
theorem C10_compression_client_keys (u : NKey) (a b : Nat) (h : seqKey u a <+: seqKey u b) : a = b := by
  rw [seqKey, seqKey, List.append_assoc, List.append_assoc, List.prefix_append_right_inj] at h
  exact (ListAux.replicate_prefix (by decide) h).1

theorem carried_eq (rotated : Bool) (t : Nat) (k : NKey) :
    carried rotated t k = k ++ List.replicate ((if rotated then 2 else 1) * t) 0 := by
  induction t generalizing k with
  | zero => exact (List.append_nil k).symm
  | succ t ih =>
    rw [carried, ih, Nat.mul_succ, Nat.add_comm, List.replicate_add]
    cases rotated <;> simp [roundKeys, child]

/-- all keys (use key, rotation key) handed out in round `t` of a run that started from key `k` -/
def keysOfRound (rotated : Bool) (t : Nat) (k : NKey) : List NKey :=
  let ks := roundKeys rotated (carried rotated t k)
  ks.use :: ks.rot.toList

theorem keysOfRound_eq (rotated : Bool) (t : Nat) (k : NKey) :
    keysOfRound rotated t k
      = if rotated then [seqKey k (2 * t + 1), seqKey k (2 * t)] else [seqKey k t] := by
  rw [keysOfRound, carried_eq]
  cases rotated <;> simp [roundKeys, child, seqKey, List.replicate_succ']

/-- the round is recovered from the index `n` of the key by a division -/
theorem mem_keysOfRound {rotated : Bool} {t : Nat} {k a : NKey} (ha : a ∈ keysOfRound rotated t k) :
    ∃ n, a = seqKey k n ∧ n / (if rotated then 2 else 1) = t := by
  rw [keysOfRound_eq] at ha
  cases rotated
  · exact ⟨t, List.mem_singleton.mp ha, Nat.div_one t⟩
  · rcases List.mem_pair.mp ha with rfl | rfl
    · exact ⟨2 * t + 1, rfl, Nat.mul_add_div (by decide) t 1⟩
    · exact ⟨2 * t, rfl, Nat.mul_div_cancel_left t (by decide)⟩

/-- **Successive rounds use different keys.** In a run from any initial key, no key handed out in
round `i` is equal to, or an ancestor of, a key handed out in a different round `j` (in the
splitting tree independent streams are exactly the prefix-free paths). -/
theorem C10_compression_fresh_keys (rotated : Bool) (k : NKey) (i j : Nat) (hij : i ≠ j)
    (a b : NKey) (ha : a ∈ keysOfRound rotated i k) (hb : b ∈ keysOfRound rotated j k) :
    ¬ a <+: b := by
  obtain ⟨n, rfl, hn⟩ := mem_keysOfRound ha
  obtain ⟨m, rfl, hm⟩ := mem_keysOfRound hb
  intro h
  rw [C10_compression_client_keys k n m h] at hn
  exact hij (hn.symm.trans hm)

/-- the rotation key and the use key of one round are unrelated as well -/
theorem C10_compression_rot_use (k : NKey) :
    let ks := roundKeys true k
    ∀ r ∈ ks.rot, ¬ r <+: ks.use ∧ ¬ ks.use <+: r := by
  intro ks r hr
  obtain rfl : child k 1 = r := Option.some.inj hr
  have hrot : child k 1 = seqKey k 0 := by simp [child, seqKey]
  have huse : ks.use = seqKey k 1 := rfl
  rw [huse, hrot]
  exact ⟨fun h => absurd (C10_compression_client_keys k 0 1 h) (by decide),
    fun h => absurd (C10_compression_client_keys k 1 0 h) (by decide)⟩

/-- **State along a history.** After each round of a multi-round run the state key is the carried
key — a function of the initial key and the number of rounds only (not of the inputs). -/
theorem C10_compression_history {ι : Type} (rotated : Bool) (quant : Option NKey → NKey → P → P)
    (newBits : List (P × Rat) → Rat) (st : CompState) (rounds : List (List (ι × P × Rat))) :
    (compRun rotated quant newBits st rounds).map (·.2.rng)
      = (List.range rounds.length).map fun t => carried rotated (t + 1) st.rng := by
  induction rounds generalizing st with
  | nil => rfl
  | cons r rs ih =>
    simp only [compRun, List.map_cons, List.length_cons]
    rw [ih, List.range_succ_eq_map, List.map_cons, List.map_map]
    -- head and tail hold by `rfl`: `carried` recurses by advancing the key, so
    -- `carried (t + 1) (roundKeys rotated k).next` is `carried (t + 2) k` by definition
    congr 1

/-! ## checkpoint and continue -/

section history
variable {S C B : Type}

/-- **Serialise and continue, up to a congruence.** If the codec restores the state only up to a
relation `R` that the round respects (e.g. a dict restored with another key order, a list restored
as a tuple), the two histories are related round by round. -/
theorem C10_serialise_continue_equiv (round : S → C → S) (save : S → B) (load : B → S)
    (R : S → S → Prop)
    (hround : ∀ s s' c, R s s' → R (round s c) (round s' c))
    (hcodec : ∀ s s', R s s' → R (load (save s)) s') (s s' : S) (hs : R s s') (cs : List (C × Bool)) :
    List.Forall₂ R (historyCkpt round save load s cs) (history round s' (cs.map (·.1))) := by
  induction cs generalizing s s' with
  | nil => exact List.Forall₂.nil
  | cons c cs ih =>
    have h1 : R (round (if c.2 then load (save s) else s) c.1) (round s' c.1) := by
      apply hround
      split
      · exact hcodec s s' hs
      · exact hs
    exact List.Forall₂.cons h1 (ih _ _ h1)

/-- **Serialise and continue = continue.** For a codec with `load (save s) = s`, saving and
restoring the state before any subset of the rounds leaves the whole subsequent history unchanged
(the case `R := Eq` of `C10_serialise_continue_equiv`). -/
theorem C10_serialise_continue (round : S → C → S) (save : S → B) (load : B → S)
    (hcodec : ∀ s, load (save s) = s) (s : S) (cs : List (C × Bool)) :
    historyCkpt round save load s cs = history round s (cs.map (·.1)) := by
  rw [← List.forall₂_eq_eq_eq]
  exact C10_serialise_continue_equiv round save load Eq
    (fun _ _ _ h => h ▸ rfl) (fun s _ h => h ▸ hcodec s) s s rfl cs

/-- branching: continuing from a restored copy of the state reached after a prefix of the history
gives the same remaining history as continuing from the original -/
theorem C10_serialise_branch (round : S → C → S) (save : S → B) (load : B → S)
    (hcodec : ∀ s, load (save s) = s) (s : S) (cs : List C) :
    history round (load (save s)) cs = history round s cs := by
  rw [hcodec]

end history

/-- the APFL round respects "same server part, tables equal as maps": the instance of the
congruence needed by `C10_serialise_continue_equiv` -/
theorem C10_apfl_congruence {β σc σs ι : Type} [DecidableEq ι] (grad : P → β → NKey → P)
    (copt : Optimizer σc) (sopt : Optimizer σs) (c0 : Rat) (s s' : AState ι σs)
    (clients : List (AClient ι β))
    (h : s.server = s'.server ∧ ∀ i, s.table.get? i = s'.table.get? i) :
    (apflRound grad copt sopt c0 s clients).server = (apflRound grad copt sopt c0 s' clients).server
    ∧ ∀ i, (apflRound grad copt sopt c0 s clients).table.get? i
          = (apflRound grad copt sopt c0 s' clients).table.get? i :=
  C10_apfl_map_congr grad copt sopt c0 s s' clients h.1 h.2

/-! ## agnostic FedAvg's window -/

/-- the window keeps its length (for the configured size `W ≥ 1`) -/
theorem C10_window_length (w : List P) (n : P) (hw : w ≠ []) :
    (windowStep w n).length = w.length := by
  cases w with
  | nil => exact absurd rfl hw
  | cons x w => exact List.length_append

/-- after round `t` the window is the last `W` elements of `initial window ++ counts so far`:
a function of the input window value and the rounds' domain counts only -/
theorem C10_window_history (w : List P) (ns : List P) (hw : w ≠ []) (t : Nat) (ht : t < ns.length) :
    (windowRun w ns)[t]? = some ((w ++ ns.take (t + 1)).drop (t + 1)) := by
  induction ns generalizing w t with
  | nil => cases ht
  | cons n ns ih =>
    have hpos := List.length_pos_iff.mpr hw
    cases t with
    | zero =>
      rw [windowRun, List.getElem?_cons_zero, windowStep, List.take_succ_cons, List.take_zero,
        List.drop_append_of_le_length hpos]
    | succ t =>
      -- the window after the step has the length of `w`, so `ih` applies to it; then a nonempty
      -- window absorbs `drop 1`: `w.drop 1 ++ l = (w ++ l).drop 1`
      rw [windowRun, List.getElem?_cons_succ,
        ih _ (List.length_pos_iff.mp (C10_window_length w n hw ▸ hpos)) t (Nat.lt_of_succ_lt_succ ht),
        windowStep, List.append_assoc, ← List.drop_append_of_le_length hpos, List.drop_drop,
        List.take_succ_cons (i := t + 1), List.singleton_append, Nat.add_comm 1]

open FedjaxVerif.FedAvg (sgd momentum vscale)

def exGrad : P → Nat → NKey → P := fun p b k => vscale ((b + k.length : Nat) : Rat) p
def exClients : List (AClient Nat Nat) := [⟨7, 2, [1, 2], [0]⟩, ⟨9, 1, [1], [1]⟩]
def exState : AState Nat Unit := ⟨⟨[1, 2], ()⟩, [(9, ⟨[3, 1], 1/4⟩), (4, ⟨[0, 0], 1/2⟩)]⟩

-- distinct ids; client 9 has an entry, client 7 starts from the default, client 4 is framed
example : (exClients.map (·.id)).Nodup := by decide
example : ((apflRound exGrad (sgd (1/8)) (sgd 1) (1/2) exState exClients).table.keys) = [9, 4, 7] := by
  decide +kernel
example : (apflRound exGrad (sgd (1/8)) (sgd 1) (1/2) exState exClients).table.get? 4
    = some ⟨[0, 0], 1/2⟩ := by decide +kernel
-- the hypothesis of `C10_alias_detected` is satisfiable: training client 9 again moves its state
example :
    (trainClient exGrad (sgd (1/8)) exState.server.params
      (trainClient exGrad (sgd (1/8)) exState.server.params
        (exState.table.getD 9 (defaultSt exState.server.params (1/2))) ⟨9, 1, [1], [1]⟩).1
      (⟨9, 1, [1], [1]⟩ : AClient Nat Nat)).1
    ≠ (trainClient exGrad (sgd (1/8)) exState.server.params
        (exState.table.getD 9 (defaultSt exState.server.params (1/2))) ⟨9, 1, [1], [1]⟩).1 := by
  decide +kernel
/-- **Counterexample for the code as it stood.** Under the in-place semantics a second call with
"the same" state (whose dict now holds the first call's table) returns another table: the witness
behind finding C10/apfl/input-mutated. -/
theorem C10_inplace_counterexample :
    (apflRoundInPlace exGrad (sgd (1/8)) (sgd 1) (1/2)
      ⟨exState.server, (apflRoundInPlace exGrad (sgd (1/8)) (sgd 1) (1/2) exState exClients).table⟩
      exClients).table
    ≠ (apflRoundInPlace exGrad (sgd (1/8)) (sgd 1) (1/2) exState exClients).table := by
  decide +kernel
example : clip01 (5/4) = 1 ∧ clip01 (-1/4) = 0 ∧ clip01 (1/3) = 1/3 := by decide +kernel

-- compression: a quantizer that really depends on its key; two rounds, two clients
def exQuant : Option NKey → NKey → P → P := fun rot key p =>
  p.map fun x => x + (key.length : Rat) + ((rot.map List.length).getD 0 : Nat)
def exBits : List (P × Rat) → Rat := fun q => (q.length : Rat) * 3
example : (compApply false exQuant exBits [(1, [1, 2], 1), (2, [3, 4], 3)] ⟨5, [7]⟩)
    = (some [25 / 4, 29 / 4], ⟨11, [7, 0]⟩) := by decide +kernel
example : (compRun true exQuant exBits ⟨0, []⟩
    [[(1, [1], 1)], [(1, [1], 1)]]).map (·.2.rng) = [[0, 0], [0, 0, 0, 0]] := by decide +kernel
example : keysOfRound true 1 [5] = [[5, 0, 0, 0, 1], [5, 0, 0, 1]] := by decide +kernel

example : wmean [([5, 7], 0), ([1, 2], 1), ([9, 9], 0)] = some [1, 2] := by decide +kernel
-- a table that lacks client 7's entry but agrees at the participant 9 gives the same results
example : apflResults exGrad (sgd (1/8)) (1/2) exState [⟨9, 1, [1], [1]⟩]
    = apflResults exGrad (sgd (1/8)) (1/2) (⟨exState.server, [(9, ⟨[3, 1], 1/4⟩)]⟩ : AState Nat Unit)
        [⟨9, 1, [1], [1]⟩] := by decide +kernel

-- serialise/continue: a codec that is not the identity on representations
example : historyCkpt (fun (s : Nat) (c : Nat) => s * 2 + c) (fun s => [s, s]) (fun b => b.headD 0) 1
    [(1, true), (0, false), (5, true)] = [3, 6, 17] := by decide
example : windowRun [[1, 1], [1, 1]] [[2, 0], [0, 3], [4, 4]]
    = [[[1, 1], [2, 0]], [[2, 0], [0, 3]], [[0, 3], [4, 4]]] := by decide +kernel

end FedjaxVerif.Purity
