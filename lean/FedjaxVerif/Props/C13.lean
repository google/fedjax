import FedjaxVerif.Model.Samplers
import Mathlib.NumberTheory.LucasPrimality
import Mathlib.Tactic.NormNum.Prime

/-!
# C13 — client sampling is a pure function of (seed, round number)

Property theorems about `Model/Samplers.lean` (model of `UniformGetClientSampler`,
`get_pseudo_random_state`, `UniformShuffledClientSampler`).  numpy's `choice`, jax's
`split(PRNGKey(round), n)` and the dataset lookup are arbitrary oracles; every statement holds
for all oracles, all seeds (`start`), all cohort sizes, all round numbers and all call histories.
-/

namespace FedjaxVerif.Samplers

/-! ## modular exponentiation -/

theorem powModF_eq {fuel e : Nat} (b m : Nat) (h : e < 2 ^ fuel) : powModF fuel b e m = b ^ e % m := by
  induction fuel generalizing b e with
  | zero =>
    obtain rfl : e = 0 := Nat.lt_one_iff.mp h
    rfl
  | succ f ih =>
    rw [powModF, ih _ (Nat.div_lt_of_lt_mul (Nat.pow_succ' ▸ h)), ← Nat.pow_mod]
    by_cases he : e = 0
    · rw [if_pos he, he]
      rfl
    · rw [if_neg he]
      conv_rhs => rw [← Nat.div_add_mod e 2, Nat.pow_add, Nat.pow_mul, Nat.pow_two]
      rcases Nat.mod_two_eq_zero_or_one e with h2 | h2
      · rw [h2, if_neg Nat.zero_ne_one, Nat.pow_zero, Nat.mul_one]
      · rw [h2, if_pos rfl, Nat.pow_one, Nat.mul_mod_mod, Nat.mul_comm]

/-- `powMod` is Python's three-argument `pow` for every exponent. -/
theorem powMod_eq (b e m : Nat) : powMod b e m = b ^ e % m :=
  powModF_eq b m Nat.lt_log2_self

theorem lehmer_eq (start r : Nat) : lehmer start r = G ^ r * start % P := by
  unfold lehmer
  rw [powMod_eq, Nat.mod_mul_mod]

/-! ## `2^31 - 1` is prime and `16807` is a primitive root

Lucas certificate: `G ^ (P - 1) = 1` and `G ^ ((P - 1) / q) ≠ 1` for every prime `q ∣ P - 1`.
The powers are evaluated by the kernel through `powMod`. -/

theorem zmod_pow_eq_one_iff {m : Nat} (hm : 1 < m) (b e : Nat) :
    (b : ZMod m) ^ e = 1 ↔ powMod b e m = 1 := by
  rw [powMod_eq, ← Nat.cast_pow, ← Nat.cast_one, ZMod.natCast_eq_natCast_iff',
    Nat.mod_eq_of_lt hm]

theorem G_pow_full : (G : ZMod P) ^ (P - 1) = 1 :=
  (zmod_pow_eq_one_iff (by decide) G (P - 1)).mpr (by decide +kernel)

theorem G_pow_div (q : Nat) (hq : q.Prime) (hd : q ∣ P - 1) : (G : ZMod P) ^ ((P - 1) / q) ≠ 1 := by
  have hprime : ∀ p ∈ ([2, 3, 3, 7, 11, 31, 151, 331] : List ℕ), Prime p := by
    simp only [List.forall_mem_cons, ← Nat.prime_iff]
    norm_num
  have hpow : ∀ p ∈ ([2, 3, 3, 7, 11, 31, 151, 331] : List ℕ), powMod G ((P - 1) / p) P ≠ 1 := by
    decide +kernel
  -- `P - 1` is their product
  exact mt (zmod_pow_eq_one_iff (by decide) G _).mp
    (hpow q (mem_list_primes_of_dvd_prod hq.prime hprime hd))

theorem prime_P : Nat.Prime P :=
  lucas_primality P (G : ZMod P) G_pow_full G_pow_div

theorem orderOf_G : orderOf (G : ZMod P) = P - 1 :=
  orderOf_eq_of_pow_and_pow_div_prime (by decide) G_pow_full G_pow_div

theorem isOfFinOrder_G : IsOfFinOrder (G : ZMod P) := by
  rw [← orderOf_pos_iff, orderOf_G]
  decide

/-! ## the Lehmer seed derivation -/

theorem lehmer_cast (start r : Nat) : (lehmer start r : ZMod P) = (G : ZMod P) ^ r * start := by
  simp only [lehmer_eq, ZMod.natCast_mod, Nat.cast_mul, Nat.cast_pow]

theorem lehmer_lt (start r : Nat) : lehmer start r < P := by
  rw [lehmer_eq]
  exact Nat.mod_lt _ (by decide)

theorem natCast_ne_zero_of_lt_P {start : Nat} (h1 : 1 ≤ start) (h2 : start < P) :
    (start : ZMod P) ≠ 0 :=
  mt (ZMod.natCast_eq_zero_iff _ _).mp (Nat.not_dvd_of_pos_of_lt h1 h2)

/-- One more round = one Lehmer step `x ↦ 16807·x mod (2^31−1)`; round 0 is the start value. -/
theorem C13_lehmer_step (start r : Nat) :
    lehmer start (r + 1) = G * lehmer start r % P ∧ lehmer start 0 = start % P := by
  refine ⟨?_, by simp [lehmer_eq]⟩
  rw [lehmer_eq, lehmer_eq, Nat.pow_succ, Nat.mul_mod_mod, Nat.mul_comm (G ^ r) G, Nat.mul_assoc]

/-- The numpy seed of every round lies in `[1, 2^31−2]` (never 0, never out of numpy's seed range)
when the start value does (`randint(1, 2^31−2)` guarantees it). -/
theorem C13_lehmer_nonzero (start r : Nat) (h1 : 1 ≤ start) (h2 : start < P) :
    1 ≤ lehmer start r ∧ lehmer start r ≤ P - 1 := by
  have : Fact P.Prime := ⟨prime_P⟩
  refine ⟨Nat.pos_of_ne_zero fun h0 => ?_, Nat.le_pred_of_lt (lehmer_lt start r)⟩
  -- in the field `ZMod P` a product of the unit `G ^ r` and the nonzero `start` is not zero
  have h := lehmer_cast start r
  rw [h0, Nat.cast_zero] at h
  exact mul_ne_zero (isOfFinOrder_G.isUnit.pow r).ne_zero (natCast_ne_zero_of_lt_P h1 h2) h.symm

/-- Two rounds get the same numpy seed iff they differ by a multiple of `2^31 − 2` (the full
period of the generator): within any `2^31 − 2` consecutive rounds all seeds are distinct. -/
theorem C13_lehmer_injective (start r₁ r₂ : Nat) (h1 : 1 ≤ start) (h2 : start < P) :
    lehmer start r₁ = lehmer start r₂ ↔ r₁ % (P - 1) = r₂ % (P - 1) := by
  have : Fact P.Prime := ⟨prime_P⟩
  -- read right to left: powers of `G` agree iff the exponents agree modulo its order `P - 1`;
  -- the nonzero factor `start` cancels in the field `ZMod P`; seeds below `P` are their residues
  rw [← orderOf_G, ← isOfFinOrder_G.pow_inj_mod, ← mul_left_inj' (natCast_ne_zero_of_lt_P h1 h2),
    ← lehmer_cast, ← lehmer_cast, ZMod.natCast_eq_natCast_iff',
    Nat.mod_eq_of_lt (lehmer_lt ..), Nat.mod_eq_of_lt (lehmer_lt ..)]

/-! ## the round-indexed sampler -/

theorem run_append {Id D K} (o : Oracles Id D K) (start n : Nat) (a b : List Op) (r : Nat) :
    run o start n r (a ++ b) =
      ((run o start n (run o start n r a).1 b).1,
       (run o start n r a).2 ++ (run o start n (run o start n r a).1 b).2) := by
  induction a generalizing r with
  | nil => rfl
  | cons op ops ih => simp only [List.cons_append, run, ih]

theorem run_length {Id D K} (o : Oracles Id D K) (start n : Nat) (a : List Op) (r : Nat) :
    (run o start n r a).2.length = a.length := by
  induction a generalizing r with
  | nil => rfl
  | cons op ops ih => exact congrArg Nat.succ (ih _)

theorem run_samples {Id D K} (o : Oracles Id D K) (start n : Nat) (k r : Nat) :
    run o start n r (List.replicate k .sample) =
      (r + k, (List.range' r k).map fun i => some (cohort o start n i)) := by
  induction k generalizing r with
  | zero => rfl
  | succ k ih =>
    simp only [List.replicate_succ, run, step, ih, List.range'_succ, List.map_cons, Nat.add_assoc,
      Nat.add_comm 1]

/-- after `set_round_num(r)` the sampler is a fresh sampler at round `r` -/
theorem run_setRound {Id D K} (o : Oracles Id D K) (start n r₀ r : Nat) (h ops : List Op) :
    run o start n r₀ (h ++ .setRound r :: ops) =
      ((run o start n r ops).1, ((run o start n r₀ h).2 ++ [none]) ++ (run o start n r ops).2) := by
  simp only [run_append, run, step, List.append_assoc]
  rfl

/-- **History independence.** `sample()` returns a function of the current round number only and
advances it by one; consequently, whatever two histories `h₁`, `h₂` (any mix of `sample` and
`set_round_num`, from any starting rounds) leave the sampler at the same round, *every* later call
sequence `ops` returns exactly the same values and ends at the same round. -/
theorem C13_history_independent {Id D K} (o : Oracles Id D K) (start n : Nat)
    (r₁ r₂ : Nat) (h₁ h₂ ops : List Op)
    (heq : (run o start n r₁ h₁).1 = (run o start n r₂ h₂).1) :
    (run o start n r₁ (h₁ ++ ops)).2.drop h₁.length = (run o start n r₂ (h₂ ++ ops)).2.drop h₂.length ∧
    (run o start n r₁ (h₁ ++ ops)).1 = (run o start n r₂ (h₂ ++ ops)).1 ∧
    (∀ r, step o start n r .sample = (r + 1, some (cohort o start n r))) := by
  rw [run_append, run_append, heq]
  refine ⟨?_, rfl, fun _ => rfl⟩
  dsimp only
  rw [List.drop_left' (run_length ..), List.drop_left' (run_length ..)]

/-- The value of the next `sample()` after any history is the cohort of the round the history ends
in: ids `choice(RandomState(lehmer start r))`, their datasets, keys `split(PRNGKey(r), n)`. -/
theorem C13_next_sample {Id D K} (o : Oracles Id D K) (start n r₀ : Nat) (h : List Op) :
    (run o start n r₀ (h ++ [.sample])).2 =
      (run o start n r₀ h).2 ++ [some (cohort o start n (run o start n r₀ h).1)] ∧
    (run o start n r₀ (h ++ [.sample])).1 = (run o start n r₀ h).1 + 1 := by
  rw [run_append]
  simp only [run, step, and_self]

/-- **Restart.** After *any* history, `set_round_num(r)` followed by `k` calls of `sample()` returns
the cohorts of rounds `r, r+1, …, r+k−1` — exactly what an uninterrupted run from round 0 returned
at its calls number `r … r+k−1` — and leaves the sampler at round `r + k`.  A sampler constructed
with `start_round_num = r` behaves the same. -/
theorem C13_restart {Id D K} (o : Oracles Id D K) (start n r₀ r k m : Nat) (h : List Op)
    (hm : r + k ≤ m) :
    let original := (run o start n 0 (List.replicate m .sample)).2
    (run o start n r₀ (h ++ .setRound r :: List.replicate k .sample)).2.drop (h.length + 1)
        = (original.drop r).take k ∧
    (run o start n r₀ (h ++ .setRound r :: List.replicate k .sample)).1 = r + k ∧
    (run o start n r (List.replicate k .sample)).2 = (original.drop r).take k := by
  have horig : ((run o start n 0 (List.replicate m .sample)).2.drop r).take k
      = (run o start n r (List.replicate k .sample)).2 := by
    rw [run_samples, run_samples, ← List.map_drop, ← List.map_take, List.drop_range',
      List.take_range'_of_length_ge (Nat.le_sub_of_add_le' hm), Nat.mul_one, Nat.zero_add]
  refine ⟨?_, ?_, horig.symm⟩
  · rw [horig, run_setRound, List.drop_left' (by simp [run_length])]
  · rw [run_setRound, run_samples]

def Op.isFailed : Op → Bool
  | .failedSample => true
  | _ => false

@[simp] theorem isFailed_sample : Op.isFailed .sample = false := rfl
@[simp] theorem isFailed_setRound (r : Nat) : Op.isFailed (.setRound r) = false := rfl
@[simp] theorem isFailed_failedSample : Op.isFailed .failedSample = true := rfl

/-- **Failed samples leave no trace.** A `sample()` call that raises while the datasets are loaded
returns nothing and does not consume its round: any history with such failed calls anywhere in it ends
at the same round and hands out exactly the same cohorts, in the same order, as the history with the
failed calls removed.  In particular the retry right after a failure returns the cohort of the round
the failed call was asked for. -/
theorem C13_failed_sample_frame {Id D K} (o : Oracles Id D K) (start n : Nat) (ops : List Op) (r : Nat) :
    (run o start n r ops).1 = (run o start n r (ops.filter fun op => !op.isFailed)).1 ∧
    (run o start n r ops).2.filterMap id =
      (run o start n r (ops.filter fun op => !op.isFailed)).2.filterMap id ∧
    (∀ h, (run o start n r (h ++ [.failedSample, .sample])).2.getLast? =
      some (some (cohort o start n (run o start n r h).1))) := by
  -- the first two claims go by one induction, so they are grouped: `(A ∧ B) ∧ C`
  refine and_assoc.mp ⟨?_, fun h => ?_⟩
  · -- a failed call and `set_round_num` return `none`, which `filterMap id` drops; on each
    -- constructor `run`, `filter` and `isFailed` reduce, so the goal is `ih` up to `rfl`
    induction ops generalizing r with
    | nil => exact ⟨rfl, rfl⟩
    | cons op ops ih =>
      cases op with
      | sample => exact ⟨(ih _).1, congrArg (List.cons _) (ih _).2⟩
      | setRound r' => exact ih r'
      | failedSample => exact ih r
  · rw [run_append, List.getLast?_append]
    rfl

/-! ## cohort content under the oracle hypotheses (numpy `choice` without replacement) -/

theorem cohort_ids {Id D K} {o : Oracles Id D K} {start n r : Nat}
    (hc : (o.choice (lehmer start r) n).length = n) (hk : (o.keys r n).length = n) :
    (cohort o start n r).map (·.1) = o.choice (lehmer start r) n := by
  rw [cohort, List.map_map]
  exact List.map_fst_zip (hc.trans hk.symm).le

/-- A cohort has exactly `n` members, carries the keys `split(PRNGKey(r), n)` in order (client `i`
gets key `i`), and every member's dataset is the dataset of its own id. -/
theorem C13_cohort_shape {Id D K} (o : Oracles Id D K) (start n r : Nat)
    (hc : (o.choice (lehmer start r) n).length = n) (hk : (o.keys r n).length = n) :
    (cohort o start n r).length = n ∧
    (cohort o start n r).map (·.2.2) = o.keys r n ∧
    (∀ x ∈ cohort o start n r, x.2.1 = o.data x.1) := by
  refine ⟨by simp [cohort, hc, hk], ?_, ?_⟩
  · rw [cohort, List.map_map]
    exact List.map_snd_zip (hk.trans hc.symm).le
  · exact List.forall_mem_map.2 fun _ _ => rfl

/-- Under the oracle hypothesis that `choice(replace=False)` returns no duplicates, a cohort never
repeats a client. -/
theorem C13_no_repeat {Id D K} (o : Oracles Id D K) (start n r : Nat)
    (hc : (o.choice (lehmer start r) n).length = n) (hk : (o.keys r n).length = n)
    (hnd : (o.choice (lehmer start r) n).Nodup) :
    ((cohort o start n r).map (·.1)).Nodup := by
  rw [cohort_ids hc hk]
  exact hnd

/-- Under the oracle hypothesis that `choice` draws from the id array, a cohort only contains
clients of the dataset, with their exact ids. -/
theorem C13_ids_member {Id D K} (o : Oracles Id D K) (start n r : Nat) (ids : List Id)
    (hc : (o.choice (lehmer start r) n).length = n) (hk : (o.keys r n).length = n)
    (hsub : ∀ i ∈ o.choice (lehmer start r) n, i ∈ ids) :
    ∀ x ∈ cohort o start n r, x.1 ∈ ids := by
  intro x hx
  apply hsub
  rw [← cohort_ids hc hk]
  exact List.mem_map_of_mem hx

/-! ## the streaming sampler -/

theorem seekInner_eq (k pos : Nat) : seekInner k pos = pos + k := by
  induction k generalizing pos with
  | zero => rfl
  | succ k ih => rw [seekInner, ih, Nat.add_assoc, Nat.add_comm 1]

theorem seek_eq (n k pos : Nat) : seek n k pos = pos + k * n := by
  induction k generalizing pos with
  | zero => simp [seek]
  | succ k ih => rw [seek, ih, seekInner_eq, Nat.succ_mul, Nat.add_assoc, Nat.add_comm n]

theorem takePos_eq (k pos : Nat) : takePos k pos = (List.range k).map (pos + ·) := by
  rw [← List.range'_eq_map_range]
  induction k generalizing pos with
  | zero => rfl
  | succ k ih => rw [takePos, ih, List.range'_succ]

theorem samples_eq {C K} (s : Nat → C) (keys : Nat → Nat → List K) (n k : Nat) (st : SState) :
    SState.samples s keys n k st =
      ((List.range k).map (fun j =>
          ((List.range n).map (fun i => s (st.pos + j * n + i))).zip (keys (st.round + j) n)),
       ⟨st.pos + k * n, st.round + k⟩) := by
  induction k generalizing st with
  | zero => simp [SState.samples]
  | succ k ih =>
    -- call `j` after one `sample()` is call `j + 1`: only `pos + n + j * n = pos + (j + 1) * n` is left
    simp only [SState.samples, ih, SState.sample, takePos_eq, List.range_succ_eq_map, List.map_cons,
      List.map_map, Function.comp_def, Nat.succ_eq_add_one, Nat.succ_mul, Nat.add_assoc, Nat.add_comm n,
      Nat.add_comm 1, Nat.zero_mul, Nat.add_zero, Nat.zero_add]

/-- What the `j`-th call (from 0) of a streaming sampler started at round `r₀` returns: stream
items number `(r₀+j)·n … (r₀+j)·n + n − 1`, paired with the keys `split(PRNGKey(r₀+j), n)`. -/
theorem C13_stream_explicit {C K} (s : Nat → C) (keys : Nat → Nat → List K) (n r₀ k : Nat) :
    (SState.samples s keys n k (SState.init n r₀)).1 =
      (List.range k).map (fun j =>
        ((List.range n).map (fun i => s ((r₀ + j) * n + i))).zip (keys (r₀ + j) n)) := by
  simp only [samples_eq, SState.init, seek_eq, Nat.zero_add, Nat.add_mul]

/-- **Streaming restart.** A streaming sampler constructed with `start_round_num = r₀` over a fresh
iterator of the same seeded client stream returns, at its calls `0 … k−1`, exactly what a sampler
started at round 0 returns at its calls `r₀ … r₀+k−1` (clients, datasets and keys). -/
theorem C13_stream_restart {C K} (s : Nat → C) (keys : Nat → Nat → List K) (n r₀ k : Nat) :
    (SState.samples s keys n k (SState.init n r₀)).1 =
      ((SState.samples s keys n (r₀ + k) (SState.init n 0)).1).drop r₀ := by
  rw [C13_stream_explicit, C13_stream_explicit, List.range_add, List.map_append,
    List.drop_left' (by rw [List.length_map, List.length_range]), List.map_map]
  simp only [Function.comp_def, Nat.zero_add]

-- seed start 12345, cohort 2, rounds 0,1, jump to 7, back to 0
example : run (Id := Nat) (D := Nat) (K := Nat)
      ⟨fun s n => List.replicate n s, fun r n => List.replicate n r, id⟩ 12345 2 0
      [.sample, .sample, .setRound 7, .sample, .setRound 0, .sample] =
    (1, [some [(12345, 12345, 0), (12345, 12345, 0)],
         some [(207482415, 207482415, 1), (207482415, 207482415, 1)], none,
         some [(1644515420, 1644515420, 7), (1644515420, 1644515420, 7)], none,
         some [(12345, 12345, 0), (12345, 12345, 0)]]) := by decide +kernel
-- a failed `sample()` between two successful ones: the retry returns the round that failed
example : (run (Id := Nat) (D := Nat) (K := Nat)
      ⟨fun s n => List.replicate n s, fun r n => List.replicate n r, id⟩ 12345 1 0
      [.sample, .failedSample, .failedSample, .sample]).2.filterMap id =
    [[(12345, 12345, 0)], [(207482415, 207482415, 1)]] := by decide +kernel
example : 1 ≤ (12345 : Nat) ∧ 12345 < P := by decide
example : lehmer 12345 1 = 207482415 ∧ lehmer 12345 (P - 1) = 12345 ∧ lehmer 12345 (P - 2) ≠ 12345 := by
  decide +kernel
example : (SState.samples (fun i => i) (fun r n => List.replicate n r) 3 2 (SState.init 3 2)).1 =
    [[(6, 2), (7, 2), (8, 2)], [(9, 3), (10, 3), (11, 3)]] := by decide +kernel
example : ((SState.samples (fun i => i) (fun r n => List.replicate n r) 3 4 (SState.init 3 0)).1).drop 2 =
    [[(6, 2), (7, 2), (8, 2)], [(9, 3), (10, 3), (11, 3)]] := by decide +kernel
-- the oracle hypotheses of `C13_no_repeat` are satisfiable with a non-trivial cohort
example : let o : Oracles Nat Nat Nat := ⟨fun s n => (List.range n).map (· + s), fun r n => (List.range n).map (· + 100 * r), id⟩
    (o.choice (lehmer 5 3) 4).length = 4 ∧ (o.keys 3 4).length = 4 ∧ (o.choice (lehmer 5 3) 4).Nodup := by
  decide +kernel

end FedjaxVerif.Samplers
