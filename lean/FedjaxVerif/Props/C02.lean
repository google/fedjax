import FedjaxVerif.Model.ForEach

/-!
# C02 — all for-each-client backends equal the sequential per-client fold

`seqRun` is the model of the jit and debug backends (their agreement with it is a matter of the
correspondence check).  The theorems below show that the pmap backend's blockify / mask / unpad
pipeline computes, for *every* `init`/`step`/`final`, every padding input, padding batch and
zeroing function, exactly the sequential fold per real client, and that the backend choice is
scoped per thread and restored by the context manager.
-/

namespace FedjaxVerif.ForEach

variable {ι β γ σ₀ σ ρ ω : Type}

theorem foldSteps_length (step : σ → β → σ × ρ) (st : σ) (bs : List β) :
    (foldSteps step st bs).2.length = bs.length := by
  induction bs generalizing st with
  | nil => rfl
  | cons b bs ih => simp [foldSteps, ih]

/-- Nothing is assumed about `step` on the padding batches: a masked-out step leaves the state
alone, and its result lies beyond the first `bs.length`. -/
theorem foldMasked_real_pad (step : σ → β → σ × ρ) (zeroR : ρ → ρ) (bs pads : List β) (st : σ) :
    let q := foldMasked step zeroR st (bs.map (·, true) ++ pads.map (·, false))
    (q.1, q.2.take bs.length) = foldSteps step st bs := by
  induction bs generalizing st with
  | nil =>
    refine Prod.ext ?_ rfl
    induction pads with
    | nil => rfl
    | cons p pads ih => exact ih
  | cons b bs ih => exact congrArg (fun q => (q.1, _ :: q.2)) (ih _)

theorem maskedBatches_eq_append (pb : β) (M : Nat) (bs : List β) (h : bs.length ≤ M) :
    maskedBatches pb M bs = bs.map (·, true) ++ (List.replicate (M - bs.length) pb).map (·, false) := by
  refine List.ext_getElem ?_ fun i h1 _ => ?_
  · rw [maskedBatches, List.length_map, List.length_range, List.length_append, List.length_map,
      List.length_map, List.length_replicate, Nat.add_sub_cancel' h]
  · simp only [maskedBatches, List.getElem_map, List.getElem_range]
    rcases Nat.lt_or_ge i bs.length with hi | hi
    · rw [List.getElem?_eq_getElem hi, List.getElem_append_left (by rwa [List.length_map]),
        List.getElem_map]
    · rw [List.getElem?_eq_none hi, List.getElem_append_right (by rwa [List.length_map]),
        List.getElem_map, List.getElem_replicate]

theorem maskedRun_eq_seqRun {init : σ₀ → γ → σ} {step : σ → β → σ × ρ} {final : σ₀ → σ → ω}
    {zeroR : ρ → ρ} {shared : σ₀} {pb : β} {M : Nat} {c : Client ι β γ} (h : c.batches.length ≤ M) :
    let q := foldMasked step zeroR (init shared c.input) (maskedBatches pb M c.batches)
    (c.id, final shared q.1, q.2.take c.batches.length) = seqRun init step final shared c := by
  rw [maskedBatches_eq_append pb M c.batches h]
  exact congrArg (fun q => (c.id, final shared q.1, q.2)) (foldMasked_real_pad step zeroR c.batches
    (List.replicate (M - c.batches.length) pb) (init shared c.input))

theorem runBlock_eq_map_seqRun {init : σ₀ → γ → σ} {step : σ → β → σ × ρ} {final : σ₀ → σ → ω}
    {padI : γ → γ} {padB : β → β} {zeroR : ρ → ρ} {D : Nat} {shared : σ₀}
    {c0 : Client ι β γ} {rest : List (Client ι β γ)}
    (hmax : ∀ c ∈ c0 :: rest, c.batches.length ≤ c0.batches.length) :
    runBlock init step final padI padB zeroR D shared (c0 :: rest)
      = (c0 :: rest).map (seqRun init step final shared) := by
  obtain ⟨i0, bs0, x0⟩ := c0
  refine List.map_congr_left fun c hc => ?_
  have hle : c.batches.length ≤ bs0.length := hmax c hc
  cases bs0 with
  | nil =>
    have hnil : c.batches = [] := List.eq_nil_of_length_eq_zero (Nat.le_zero.1 hle)
    simp [seqRun, hnil, foldSteps]
  | cons b0 bs0 =>
    -- `head? (b0 :: _) = some b0`: `runBlock` takes the masked branch, with `(b0 :: bs0).length` slots
    exact maskedRun_eq_seqRun (pb := padB b0) hle

theorem chunk_flatten {α} {D : Nat} (hD : 0 < D) {fuel : Nat} {xs : List α} (h : xs.length ≤ fuel) :
    (chunk D fuel xs).flatten = xs := by
  induction fuel generalizing xs with
  | zero => exact (List.eq_nil_of_length_eq_zero (Nat.le_zero.1 h)).symm
  | succ fuel ih =>
    cases xs with
    | nil => rfl
    | cons x xs =>
      have hd : ((x :: xs).drop D).length ≤ fuel := by
        -- `0 < D`: dropping `D` of at most `fuel + 1` leaves at most `fuel`
        rw [List.length_drop]
        omega
      exact (congrArg (List.take D (x :: xs) ++ ·) (ih hd)).trans (List.take_append_drop D _)

theorem mem_chunk {α} {D : Nat} (hD : 0 < D) {fuel : Nat} {xs c : List α}
    (hc : c ∈ chunk D fuel xs) : c.Sublist xs ∧ c ≠ [] ∧ c.length ≤ D := by
  induction fuel generalizing xs with
  | zero => exact nomatch hc
  | succ fuel ih =>
    cases xs with
    | nil => exact nomatch hc
    | cons x xs =>
      rcases List.mem_cons.1 hc with rfl | hc
      · exact ⟨List.take_sublist _ _,
          fun h => (List.take_eq_nil_iff.1 h).elim (Nat.ne_of_gt hD) (List.cons_ne_nil _ _),
          List.length_take_le _ _⟩
      · obtain ⟨h1, h2, h3⟩ := ih hc
        exact ⟨h1.trans (List.drop_sublist _ _), h2, h3⟩

theorem sortDesc_perm (cs : List (Client ι β γ)) : (sortDesc cs).Perm cs :=
  List.mergeSort_perm _ _

theorem sortDesc_pairwise (cs : List (Client ι β γ)) :
    (sortDesc cs).Pairwise (fun a b => b.batches.length ≤ a.batches.length) := by
  have := List.pairwise_mergeSort
    (le := fun (a b : Client ι β γ) => decide (b.batches.length ≤ a.batches.length))
    (fun a b c h1 h2 => decide_eq_true (Nat.le_trans (of_decide_eq_true h2) (of_decide_eq_true h1)))
    (fun a b => by
      rw [← Bool.decide_or, decide_eq_true_iff]
      exact Nat.le_total _ _) cs
  exact this.imp of_decide_eq_true

theorem chunk_head_max {D : Nat} (hD : 0 < D) {fuel : Nat} {xs : List (Client ι β γ)}
    (hs : xs.Pairwise (fun a b => b.batches.length ≤ a.batches.length)) :
    ∀ blk ∈ chunk D fuel xs, ∃ c0 rest, blk = c0 :: rest ∧
      ∀ c ∈ c0 :: rest, c.batches.length ≤ c0.batches.length := by
  intro blk hblk
  obtain ⟨hsub, hne, _⟩ := mem_chunk hD hblk
  cases blk with
  | nil => exact absurd rfl hne
  | cons c0 rest =>
    exact ⟨c0, rest, rfl,
      List.forall_mem_cons.2 ⟨Nat.le_refl _, (List.pairwise_cons.1 (hs.sublist hsub)).1⟩⟩

/-- **pmap = sequential fold.** For every program (`init`, `step`, `final`), every padding
input/batch/zeroing, every device count `D ≥ 1` and every client list (any batch counts, any
length, not necessarily a multiple of `D`), the pmap backend yields exactly the sequential result
of every real client, in the (stable, descending batch count) sorted order. -/
theorem C02_pmap_eq_seq (init : σ₀ → γ → σ) (step : σ → β → σ × ρ) (final : σ₀ → σ → ω)
    (padI : γ → γ) (padB : β → β) (zeroR : ρ → ρ) (D : Nat) (hD : 0 < D) (shared : σ₀)
    (cs : List (Client ι β γ)) :
    pmapRun init step final padI padB zeroR D shared cs
      = (sortDesc cs).map (seqRun init step final shared) := by
  have hblk : ∀ blk ∈ chunk D (sortDesc cs).length (sortDesc cs),
      runBlock init step final padI padB zeroR D shared blk
        = blk.map (seqRun init step final shared) := by
    intro blk hblk
    obtain ⟨c0, rest, rfl, hm⟩ := chunk_head_max hD (sortDesc_pairwise cs) blk hblk
    exact runBlock_eq_map_seqRun hm
  rw [pmapRun, List.flatMap_def, List.map_congr_left hblk, ← List.map_flatten,
    chunk_flatten hD (Nat.le_refl _)]

/-- As a collection, the pmap backend yields exactly one result per input client, equal to that
client's sequential result. -/
theorem C02_pmap_perm (init : σ₀ → γ → σ) (step : σ → β → σ × ρ) (final : σ₀ → σ → ω)
    (padI : γ → γ) (padB : β → β) (zeroR : ρ → ρ) (D : Nat) (hD : 0 < D) (shared : σ₀)
    (cs : List (Client ι β γ)) :
    (pmapRun init step final padI padB zeroR D shared cs).Perm
      (cs.map (seqRun init step final shared)) := by
  rw [C02_pmap_eq_seq init step final padI padB zeroR D hD shared cs]
  exact (sortDesc_perm cs).map _

/-- Padding clients and padding batches are never observable: the result does not depend on the
padding input, the padding batch, the zeroing of step results or the device count. -/
theorem C02_no_padding_observable (init : σ₀ → γ → σ) (step : σ → β → σ × ρ) (final : σ₀ → σ → ω)
    (padI padI' : γ → γ) (padB padB' : β → β) (zeroR zeroR' : ρ → ρ) (D D' : Nat)
    (hD : 0 < D) (hD' : 0 < D') (shared : σ₀) (cs : List (Client ι β γ)) :
    pmapRun init step final padI padB zeroR D shared cs
      = pmapRun init step final padI' padB' zeroR' D' shared cs ∧
    (pmapRun init step final padI padB zeroR D shared cs).length = cs.length ∧
    ((pmapRun init step final padI padB zeroR D shared cs).map (·.1)).Perm (cs.map (·.id)) := by
  rw [C02_pmap_eq_seq _ _ _ padI padB zeroR D hD, C02_pmap_eq_seq _ _ _ padI' padB' zeroR' D' hD']
  refine ⟨rfl, ?_, ?_⟩
  · rw [List.length_map]
    exact (sortDesc_perm cs).length_eq
  · rw [List.map_map]
    exact (sortDesc_perm cs).map _

/-- Shape of the blocks: every block is a non-empty run of at most `D` clients of the sorted
list, its first client has the block's maximal batch count (the number of masked batch slots),
every client gets exactly that many masked batches, and the blocks partition the sorted list. -/
theorem C02_block_shape (D : Nat) (hD : 0 < D) (cs : List (Client ι β γ)) (pb : β) :
    let blocks := chunk D (sortDesc cs).length (sortDesc cs)
    blocks.flatten = sortDesc cs ∧
    ∀ blk ∈ blocks, blk ≠ [] ∧ blk.length ≤ D ∧
      ∃ c0 rest, blk = c0 :: rest ∧
        ∀ c ∈ blk, c.batches.length ≤ c0.batches.length ∧
          (maskedBatches pb c0.batches.length c.batches).length = c0.batches.length := by
  refine ⟨chunk_flatten hD (Nat.le_refl _), ?_⟩
  intro blk hblk
  obtain ⟨_, hne, hlen⟩ := mem_chunk hD hblk
  obtain ⟨c0, rest, rfl, hm⟩ := chunk_head_max hD (sortDesc_pairwise cs) blk hblk
  exact ⟨hne, hlen, c0, rest, rfl, fun c hc =>
    ⟨hm c hc, by rw [maskedBatches, List.length_map, List.length_range]⟩⟩

/-- A client's result under the pmap backend does not depend on which other clients share the call
(nor on how they are blocked over devices): every client of the cohort gets exactly its own sequential
result, and every yielded result is the sequential result of one cohort member with one step result
per batch. -/
theorem C02_client_independent (init : σ₀ → γ → σ) (step : σ → β → σ × ρ) (final : σ₀ → σ → ω)
    (padI : γ → γ) (padB : β → β) (zeroR : ρ → ρ) (D : Nat) (hD : 0 < D) (shared : σ₀)
    (cs : List (Client ι β γ)) :
    (∀ c ∈ cs, seqRun init step final shared c ∈ pmapRun init step final padI padB zeroR D shared cs) ∧
    (∀ r ∈ pmapRun init step final padI padB zeroR D shared cs,
      ∃ c ∈ cs, r = seqRun init step final shared c ∧ r.2.2.length = c.batches.length) := by
  have hp := C02_pmap_perm init step final padI padB zeroR D hD shared cs
  constructor
  · intro c hc
    exact hp.mem_iff.mpr (List.mem_map_of_mem hc)
  · intro r hr
    obtain ⟨c, hc, rfl⟩ := List.mem_map.mp (hp.mem_iff.mp hr)
    exact ⟨c, hc, rfl, by simp [seqRun, foldSteps_length]⟩

/-- A client with zero batches: `final(shared, init(shared, input))` and no step results. -/
theorem C02_zero_batch_client (init : σ₀ → γ → σ) (step : σ → β → σ × ρ) (final : σ₀ → σ → ω)
    (shared : σ₀) (c : Client ι β γ) (h : c.batches = []) :
    seqRun init step final shared c = (c.id, final shared (init shared c.input), []) := by
  simp [seqRun, h, foldSteps]

/-- `with_step_result=False`: wrapping the step as `(step(state, batch), ())` gives the plain
left fold of `step` as the client's final state. -/
theorem C02_with_step_result (f : σ → β → σ) (st : σ) (bs : List β) :
    (foldSteps (fun s b => (f s b, ())) st bs).1 = bs.foldl f st := by
  induction bs generalizing st with
  | nil => rfl
  | cons b bs ih => simp [foldSteps, ih]

/-- well-bracketed op sequences of one thread; an `enter` with an unsupported name raises, so its
block (and its `exit`) never runs -/
inductive Balanced {B : Type} : List (Op B) → Prop
  | nil : Balanced []
  | get {ops} : Balanced ops → Balanced (.get :: ops)
  | set {a ops} : Balanced ops → Balanced (.set a :: ops)
  | enterBad {ops} : Balanced ops → Balanced (.enter .bad :: ops)
  | block {a inner ops} : a ≠ .bad → Balanced inner → Balanced ops →
      Balanced (.enter a :: (inner ++ .exit :: ops))

theorem trun_append {B} (dflt : B) (s : TState B) (xs ys : List (Op B)) :
    trun dflt s (xs ++ ys) = trun dflt (trun dflt s xs) ys := by
  simp [trun, List.foldl_append]

theorem trun_cons {B} (dflt : B) (s : TState B) (o : Op B) (ys : List (Op B)) :
    trun dflt s (o :: ys) = trun dflt (tstep dflt s o).1 ys := rfl

theorem tstep_exit {B} {dflt : B} {s : TState B} {old : Option B} {rest : List (Option B)}
    (h : s.stack = old :: rest) : (tstep dflt s .exit).1 = ⟨old, rest⟩ := by
  simp [tstep, h]

theorem tstep_enter_stack {B} {dflt : B} {s : TState B} {a : Arg B} (ha : a ≠ .bad) :
    (tstep dflt s (.enter a)).1.stack = s.cur :: s.stack := by
  cases a with
  | none => rfl
  | ok b => rfl
  | bad => exact absurd rfl ha

theorem balanced_stack {B} {dflt : B} {ops : List (Op B)} (h : Balanced ops) (s : TState B) :
    (trun dflt s ops).stack = s.stack := by
  induction h generalizing s with
  | nil => rfl
  | get _ ih =>
    rw [trun_cons, ih, tstep]
    split <;> rfl
  | @set a _ _ ih =>
    rw [trun_cons, ih]
    cases a <;> rfl
  -- a failed `enter` returns the state it was given (`tstep`: `{ s with cur := s.cur }`)
  | enterBad _ ih => exact ih _
  | @block a inner ops ha _ _ ih1 ih2 =>
    rw [trun_cons, trun_append, trun_cons, ih2, tstep_exit ((ih1 _).trans (tstep_enter_stack ha))]

/-- **The context manager restores the choice.** For every thread state, every argument and every
balanced body (nested contexts, `set`s, `get`s, failed `enter`s): after the matching `exit` — reached
normally or by an exception unwinding the block — the raw choice and the stack are what they were
before the `enter`. -/
theorem C02_ctx_restores {B} (dflt : B) (s : TState B) (a : Arg B) (inner : List (Op B))
    (hin : Balanced inner) :
    a ≠ .bad → trun dflt s (.enter a :: (inner ++ [.exit])) = s := by
  intro ha
  rw [trun_cons, trun_append, trun_cons,
    tstep_exit ((balanced_stack hin _).trans (tstep_enter_stack ha))]
  rfl

/-- An `enter` with an unsupported backend name raises `ValueError` from inside the `try`; the
`finally` restores the previous choice: the state is unchanged. -/
theorem C02_ctx_bad_name {B} (dflt : B) (s : TState B) :
    (tstep dflt s (.enter .bad)).1 = s ∧ (tstep dflt s (.enter .bad)).2.valueError = true :=
  ⟨rfl, rfl⟩

def opsOf {B} (t : Nat) (sched : List (Nat × Op B)) : List (Op B) :=
  (sched.filter (fun p => p.1 = t)).map (·.2)

/-- **Thread frame.** For every interleaving, the state of thread `u` after the schedule is the
result of running only `u`'s own ops, in their order: other threads' selections are invisible. -/
theorem C02_thread_frame {B} (dflt : B) (sched : List (Nat × Op B)) :
    ∀ (g : Nat → TState B) (u : Nat), grun dflt g sched u = trun dflt (g u) (opsOf u sched) := by
  induction sched with
  | nil => exact fun _ _ => rfl
  | cons p sched ih =>
    intro g u
    show grun dflt (gstep dflt g p.1 p.2) sched u = _
    rw [ih]
    by_cases h : p.1 = u
    · subst h
      simp [opsOf, gstep, trun]
    · have h' : ¬ u = p.1 := fun e => h e.symm
      simp [opsOf, gstep, h, h']

example : Balanced ([.get, .enter (.ok 3), .set .none, .enter .bad, .get, .exit, .get] : List (Op Nat)) :=
  .get (.block (by decide) (.set (.enterBad (.get .nil))) (.get .nil))

example : trun 1 ⟨some 7, []⟩ ([.enter (.ok 3), .set .none, .get, .exit] : List (Op Nat)) = ⟨some 7, []⟩ :=
  C02_ctx_restores 1 _ _ _ (.set (.get .nil)) (by decide)

example :
    pmapRun (fun (s : Nat) (i : Nat) => s + i) (fun st (b : Nat) => (st * 2 + b, st)) (fun s st => s + st)
      (fun _ => 0) (fun _ => 0) (fun _ => 0) 2 1
      [(⟨7, [1, 2], 1⟩ : Client Nat Nat Nat), ⟨8, [], 0⟩, ⟨9, [4, 4, 4], 5⟩]
    = (sortDesc [(⟨7, [1, 2], 1⟩ : Client Nat Nat Nat), ⟨8, [], 0⟩, ⟨9, [4, 4, 4], 5⟩]).map
        (seqRun (fun (s : Nat) (i : Nat) => s + i) (fun st (b : Nat) => (st * 2 + b, st)) (fun s st => s + st) 1) :=
  C02_pmap_eq_seq _ _ _ _ _ _ 2 (by decide) 1 _

end FedjaxVerif.ForEach
