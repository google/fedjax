import FedjaxVerif.Model.Shakespeare
import FedjaxVerif.Model.Emnist
import FedjaxVerif.Model.Cifar
import FedjaxVerif.Model.Labels
import FedjaxVerif.Model.Stackoverflow
import FedjaxVerif.Model.Loss
import FedjaxVerif.Lemmas.Ceil
import Mathlib.Analysis.Real.Sqrt

/-!
# C20 — packaged dataset preprocessors and models agree with each other

Theorems about the models of
* `fedjax/datasets/shakespeare.py: preprocess_client` (`Model/Shakespeare.lean`) — for every
  look-up table with values in `[3, V)`, every sequence length `L ≥ 2`, every snippet list;
* `fedjax/datasets/emnist.py: domain_id` (`Model/Emnist.lean`) — both id formats, every 4-digit
  number, every prefix/suffix;
* `fedjax/datasets/cifar100.py: preprocess_image_tff` (`Model/Cifar.lean`) — the crop is the
  sub-window at an in-range offset; the standardisation (divisor `max(σ, 1/√n)`, as
  `tf.image.per_image_standardization` defines it) has mean 0, unit variance when `σ ≥ 1/√n`,
  and maps a constant image to 0 — over every linearly ordered field with a square root, and
  over `ℝ` with `Real.sqrt`;
* the label-id agreement predicate evaluated by the driver on introspected constants
  (`Model/Labels.lean`);
* `fedjax/datasets/stackoverflow.py: DefaultWordTokenizer` (`Model/Stackoverflow.lean`) — layout,
  shift, truncation at the preprocessor's own `max_length`, label range; word splitting and the
  vocabulary look-up are externals (the sentence enters as its look-up results);
* the reduction of per-token losses in the language models' `train_loss` (`Model/Loss.lean`):
  PAD positions never contribute, all-PAD rows give 0, rows are independent; the per-token cross
  entropies are an external.

Not modelled (monitored by the harness only): row independence of the haiku networks.
-/

namespace FedjaxVerif.C20
open FedjaxVerif Shakespeare Emnist Cifar Labels

theorem joined_length (table : Nat → Nat) (snips : List (List Nat)) :
    (joined table snips).length = joinedLength snips := by
  induction snips with
  | nil => rfl
  | cons s rest ih =>
    rw [joined, List.length_append, ih, joinedLength, encodeSnippet, List.length_cons,
      List.length_append, List.length_map, List.length_singleton]

theorem joined_forall {P : Nat → Prop} {table : Nat → Nat} (hB : P BOS) (hE : P EOS)
    (ht : ∀ b, P (table b)) (snips : List (List Nat)) : ∀ v ∈ joined table snips, P v := by
  induction snips with
  | nil => nofun
  | cons s rest ih =>
    exact List.forall_mem_append.2 ⟨List.forall_mem_cons.2 ⟨hB, List.forall_mem_append.2
      ⟨List.forall_mem_map.2 fun b _ => ht b, List.forall_mem_singleton.2 hE⟩⟩, ih⟩

theorem joined_getLast? (table : Nat → Nat) (s : List Nat) (rest : List (List Nat)) :
    (joined table (s :: rest)).getLast? = some EOS := by
  induction rest generalizing s with
  | nil =>
    rw [joined, joined, List.append_nil, encodeSnippet, ← List.cons_append, List.getLast?_concat]
  | cons s' rest ih =>
    rw [joined, List.getLast?_append, ih]
    rfl

theorem rows_length (n L : Nat) (l : List Nat) : (rows n L l).length = n := by
  induction n generalizing l with
  | zero => rfl
  | succ n ih => simp [rows, ih]

theorem rows_flatten (n L : Nat) (l : List Nat) : (rows n L l).flatten = l.take (n * L) := by
  induction n generalizing l with
  | zero => simp [rows]
  | succ n ih => rw [rows, List.flatten_cons, ih, Nat.succ_mul, Nat.add_comm, List.take_add]

theorem rows_row_length {n L : Nat} {l : List Nat} (h : n * L ≤ l.length) :
    ∀ r ∈ rows n L l, r.length = L := by
  induction n generalizing l with
  | zero => nofun
  | succ n ih =>
    rw [Nat.succ_mul] at h
    rw [rows, List.forall_mem_cons]
    exact ⟨List.length_take_of_le ((Nat.le_add_left _ _).trans h),
      ih (List.length_drop ▸ Nat.le_sub_of_add_le h)⟩

/-- `paddedLength` is the least multiple of `L` that is `≥ J - 1`. -/
theorem paddedLength_spec (J L : Nat) (hL : 0 < L) :
    J - 1 ≤ paddedLength J L ∧ paddedLength J L < J - 1 + L :=
  ⟨Ceil.le_ceil_mul _ hL, Ceil.ceil_mul_lt _ hL⟩

theorem paddedLength_div_mul (J L : Nat) : paddedLength J L / L * L = paddedLength J L :=
  Nat.div_mul_cancel ⟨_, Nat.mul_comm _ _⟩

theorem stripPad_append {l : List Nat} (k : Nat) (h : ∀ v ∈ l, v ≠ PAD) :
    stripPad (l ++ List.replicate k PAD) = l := by
  unfold stripPad
  -- on the reversed list `dropWhile` eats the pads and stops at the last entry of `l`, which is not PAD
  rw [List.reverse_append, List.reverse_replicate,
    List.dropWhile_append_of_pos fun _ hx => beq_iff_eq.2 (List.eq_of_mem_replicate hx)]
  rcases List.eq_nil_or_concat' l with rfl | ⟨l', a, rfl⟩
  · rfl
  · simp [h a List.mem_concat_self]

/-- What `preprocess_client` does to `joined[:-1]` and to `joined[1:]` alike: pad to the next
multiple of `L`, reshape. `J` stands for the length of `joined`, `m` for either slice, and
`preprocess table L snips` is `(chunk J L joined.dropLast, chunk J L joined.tail)` by definition,
so what is shown of a `chunk` applies to its components as they stand. -/
def chunk (J L : Nat) (m : List Nat) : List (List Nat) :=
  rows (paddedLength J L / L) L (padTo (paddedLength J L) m)

section chunk
variable {J L : Nat} {m : List Nat}

theorem chunk_length (hL : 0 < L) : (chunk J L m).length = (J - 1 + L - 1) / L := by
  rw [chunk, rows_length, paddedLength, Nat.mul_div_cancel _ hL]

theorem chunk_forall {P : Nat → Prop} (hm : ∀ v ∈ m, P v) (hp : P PAD) :
    ∀ r ∈ chunk J L m, ∀ v ∈ r, P v := fun r hr v hv => by
  have : v ∈ (chunk J L m).flatten := List.mem_flatten.2 ⟨r, hr, hv⟩
  rw [chunk, rows_flatten] at this
  exact List.forall_mem_append.2 ⟨hm, List.forall_mem_replicate.2 (.inr hp)⟩ v
    (List.mem_of_mem_take this)

theorem chunk_flat_length (hL : 0 < L) (hm : m.length = J - 1) :
    (padTo (paddedLength J L) m).length = paddedLength J L / L * L := by
  rw [paddedLength_div_mul, padTo, List.length_append, List.length_replicate,
    Nat.add_sub_cancel' (hm ▸ (paddedLength_spec J L hL).1)]

theorem chunk_flatten (hL : 0 < L) (hm : m.length = J - 1) :
    (chunk J L m).flatten = m ++ List.replicate (paddedLength J L - (J - 1)) PAD := by
  rw [chunk, rows_flatten, List.take_of_length_le (chunk_flat_length hL hm).le, padTo, hm]

theorem chunk_row_length (hL : 0 < L) (hm : m.length = J - 1) : ∀ r ∈ chunk J L m, r.length = L :=
  rows_row_length (chunk_flat_length hL hm).ge

theorem chunk_getElem? (hL : 0 < L) (hm : m.length = J - 1) {t : Nat} (ht : t < J - 1) :
    (chunk J L m).flatten[t]? = m[t]? := by
  rw [chunk_flatten hL hm, List.getElem?_append_left (hm ▸ ht)]

theorem chunk_stripPad (hL : 0 < L) (hm : m.length = J - 1) (hne : ∀ v ∈ m, v ≠ PAD) :
    stripPad (chunk J L m).flatten = m := by
  rw [chunk_flatten hL hm]
  exact stripPad_append _ hne

end chunk

theorem preprocess_getElem? {table : Nat → Nat} {L : Nat} {snips : List (List Nat)} (hL : 0 < L)
    {t : Nat} (ht : t + 1 < (joined table snips).length) :
    (preprocess table L snips).1.flatten[t]? = (joined table snips)[t]? ∧
    (preprocess table L snips).2.flatten[t]? = (joined table snips)[t + 1]? :=
  have h := Nat.lt_sub_of_add_lt ht
  ⟨(chunk_getElem? hL List.length_dropLast h).trans (by rw [List.getElem?_dropLast, if_pos h]),
    (chunk_getElem? hL List.length_tail h).trans List.getElem?_tail⟩

/-- **Shakespeare: nothing is lost.** For every table whose labels are `≥ 3` (no byte maps to PAD):
flattening `x` (resp. `y`) of `preprocess_client` and removing the trailing PAD gives back the joined
label sequence without its last (resp. first) label.  Only `0 < L` is used; `2 ≤ L` is the range on
which the model's truncated `paddedLength` agrees with Python's for a client without snippets. -/
theorem C20_shk_lossless (table : Nat → Nat) (L : Nat) (snips : List (List Nat))
    (hL : 2 ≤ L) (htab : ∀ b, 3 ≤ table b) :
    stripPad (preprocess table L snips).1.flatten = (joined table snips).dropLast ∧
    stripPad (preprocess table L snips).2.flatten = (joined table snips).tail := by
  have hne : ∀ v ∈ joined table snips, v ≠ PAD :=
    joined_forall (by decide) (by decide) (fun b h => absurd (h ▸ htab b) (by decide)) snips
  have hL' : 0 < L := Nat.zero_lt_of_lt hL
  exact ⟨chunk_stripPad hL' List.length_dropLast fun v hv => hne v (List.dropLast_subset _ hv),
    chunk_stripPad hL' List.length_tail fun v hv => hne v (List.mem_of_mem_tail hv)⟩

/-- **Targets are inputs shifted by one.** Inside the unpadded part, position `t` of the flattened `y`
and position `t + 1` of the flattened `x` both hold label `t + 1` of the joined sequence. -/
theorem C20_shk_shift (table : Nat → Nat) (L : Nat) (snips : List (List Nat)) (hL : 2 ≤ L)
    (t : Nat) (ht : t + 1 < (joined table snips).length - 1) :
    (preprocess table L snips).2.flatten[t]? = (joined table snips)[t + 1]? ∧
    (preprocess table L snips).1.flatten[t + 1]? = (joined table snips)[t + 1]? ∧
    (joined table snips)[t + 1]? ≠ none := by
  have hL' : 0 < L := Nat.zero_lt_of_lt hL
  have h1 := Nat.add_lt_of_lt_sub ht
  have h2 := Nat.lt_of_succ_lt h1
  exact ⟨(preprocess_getElem? hL' h2).2, (preprocess_getElem? hL' h1).1,
    List.getElem?_eq_getElem h2 ▸ Option.some_ne_none _⟩

/-- every label of `x` and of `y`, PAD included, is below the vocabulary size `V`, for every table
with values in `[3, V)` -/
theorem C20_shk_range (table : Nat → Nat) (V L : Nat) (snips : List (List Nat))
    (htab : ∀ b, 3 ≤ table b ∧ table b < V) :
    (∀ r ∈ (preprocess table L snips).1, ∀ v ∈ r, v < V) ∧
    (∀ r ∈ (preprocess table L snips).2, ∀ v ∈ r, v < V) := by
  have hV : ∀ {v}, v < 3 → v < V := fun h => h.trans ((htab 0).1.trans_lt (htab 0).2)
  have hj : ∀ v ∈ joined table snips, v < V :=
    joined_forall (hV (by decide)) (hV (by decide)) (fun b => (htab b).2) snips
  have hp : PAD < V := hV (by decide)
  exact ⟨chunk_forall (fun v hv => hj v (List.dropLast_subset _ hv)) hp,
    chunk_forall (fun v hv => hj v (List.mem_of_mem_tail hv)) hp⟩

/-- Shakespeare `x` and `y`: number of rows `= ⌈(J − 1)/L⌉`, every row has `L` labels, no snippets ↦ no
rows -/
theorem C20_shk_rows (table : Nat → Nat) (L : Nat) (snips : List (List Nat)) (hL : 2 ≤ L) :
    let J := joinedLength snips
    let x := (preprocess table L snips).1
    let y := (preprocess table L snips).2
    x.length = (J - 1 + L - 1) / L ∧ y.length = x.length ∧
    (J - 1 ≤ x.length * L ∧ x.length * L < J - 1 + L) ∧
    (∀ r ∈ x, r.length = L) ∧ (∀ r ∈ y, r.length = L) ∧
    (snips = [] → x = [] ∧ y = []) := by
  have hL' : 0 < L := Nat.zero_lt_of_lt hL
  -- the `chunk` lemmas speak of `(joined table snips).length`
  rw [← joined_length table snips]
  intro J x y
  have hx : x.length = (J - 1 + L - 1) / L := chunk_length hL'
  have hy : y.length = (J - 1 + L - 1) / L := chunk_length hL'
  refine ⟨hx, hy.trans hx.symm, hx ▸ paddedLength_spec J L hL',
    chunk_row_length hL' List.length_dropLast, chunk_row_length hL' List.length_tail, ?_⟩
  rintro rfl
  have h0 : (J - 1 + L - 1) / L = 0 := Nat.div_eq_of_lt (by
    rw [show J - 1 = 0 from rfl, Nat.zero_add]
    exact Nat.sub_lt hL' Nat.one_pos)
  exact ⟨List.eq_nil_of_length_eq_zero (hx.trans h0), List.eq_nil_of_length_eq_zero (hy.trans h0)⟩

/-- the stream starts with `BOS` and its last real target is `EOS` -/
theorem C20_shk_bos_eos (table : Nat → Nat) (L : Nat) (snips : List (List Nat)) (hL : 2 ≤ L)
    (hne : snips ≠ []) :
    (preprocess table L snips).1.flatten[0]? = some BOS ∧
    (preprocess table L snips).2.flatten[joinedLength snips - 2]? = some EOS := by
  obtain ⟨s, rest, rfl⟩ := List.exists_cons_of_ne_nil hne
  have h2 : 2 ≤ joinedLength (s :: rest) := (Nat.le_add_left _ _).trans (Nat.le_add_right _ _)
  have hL' : 0 < L := Nat.zero_lt_of_lt hL
  rw [← joined_length table] at h2 ⊢
  constructor
  · exact (preprocess_getElem? hL' h2).1
  · rw [(preprocess_getElem? hL' (by omega)).2, ← joined_getLast? table s rest,
      List.getLast?_eq_getElem?]
    congr 1
    omega


/-- One step of Horner's rule on the decimal digits of `n`: reading the digit `n / m % 10` takes
the accumulator from `n / (m * 10)` to `n / m`. -/
theorem horner_step (n m : Nat) : n / (m * 10) * 10 + n / m % 10 = n / m := by
  rw [← Nat.div_div_eq_div_mul]
  exact Nat.div_add_mod' _ _

theorem parse_digits4 {n : Nat} (hn : n < 10000) : parseInt? (digits4 n) = some n := by
  have d : ∀ k < 10, digit? (48 + k) = some k := by decide
  have h1 := horner_step n 1
  rw [Nat.div_one] at h1
  simp only [parseInt?, digits4, List.isEmpty_cons, Bool.false_eq_true, if_false, parseDigits?,
    d _ (Nat.mod_lt _ (by decide))]
  -- the accumulator starts at `0 = n / 10000`
  rw [← Nat.div_eq_of_lt hn, horner_step n 1000, horner_step n 100, horner_step n 10, h1]

/-- Both id formats: the four digits after a prefix of 18 or of 1 bytes decide the domain. -/
theorem domainId_digits4 {n : Nat} (hn : n < 10000) {pre suf : List Nat} (hsuf : suf.length = 3)
    (hpre : pre.length = 18 ∨ pre.length = 1) :
    domainId (pre ++ digits4 n ++ suf) = some (domainOf n) := by
  have hd : (digits4 n).length = 4 := rfl
  have hparse : parseInt? (((pre ++ digits4 n ++ suf).drop pre.length).take 4) = some n := by
    rw [List.append_assoc, List.drop_left, List.take_left' hd, parse_digits4 hn]
  have hlen : (pre ++ digits4 n ++ suf).length = pre.length + 7 := by
    rw [List.length_append, List.length_append, hsuf, hd]
  rw [domainId, hlen]
  rcases hpre with hp | hp
  · rw [hp] at hparse ⊢
    rw [if_pos rfl, hparse, Option.map_some]
  · rw [hp] at hparse ⊢
    rw [if_neg (by decide), if_pos rfl, hparse, Option.map_some]

/-- `domain_id` of a client id in either format (a prefix of 18 bytes, `[16 hex]:f`, or of 1 byte, `f`;
the four decimal digits of `n`; a suffix of 3 bytes, `_dd`), whatever the prefix and suffix bytes are:
0 (HIGH_SCHOOL) when `2100 ≤ n ≤ 2599`, else 1 (CENSUS). -/
theorem C20_emnist_domain (n : Nat) (hn : n < 10000) (pre suf : List Nat) (hsuf : suf.length = 3) :
    (pre.length = 18 → domainId (pre ++ digits4 n ++ suf)
        = some (if 2100 ≤ n ∧ n ≤ 2599 then 0 else 1)) ∧
    (pre.length = 1 → domainId (pre ++ digits4 n ++ suf)
        = some (if 2100 ≤ n ∧ n ≤ 2599 then 0 else 1)) :=
  ⟨fun h => domainId_digits4 hn hsuf (.inl h), fun h => domainId_digits4 hn hsuf (.inr h)⟩

/-- an id whose length is neither 25 nor 8 is rejected (`ValueError` in the source, `none` here) -/
theorem C20_emnist_rejects (id : List Nat) (h25 : id.length ≠ 25) (h8 : id.length ≠ 8) :
    domainId id = none :=
  (if_neg h25).trans (if_neg h8)


/-- the centre offset `(H - h) // 2` and the random offset `u % (H - h + 1)` of `preprocess_image_tff`
both lie in `[0, H - h]`, whatever the draw `u` -/
theorem C20_crop_offsets (u H h : Nat) :
    centreOff H h ≤ H - h ∧ randOff u H h ≤ H - h :=
  ⟨Nat.div_le_self _ _, Nat.le_of_lt_succ (Nat.mod_lt u (Nat.succ_pos _))⟩

theorem length_take_drop {α} {l : List α} {o n : Nat} (h : o + n ≤ l.length) :
    ((l.drop o).take n).length = n :=
  List.length_take_of_le (List.length_drop ▸ Nat.le_sub_of_add_le' h)

/-- the crop `image[oi:oi+h, oj:oj+w]` of an `H × W` image at an offset with `oi + h ≤ H`, `oj + w ≤ W`
has `h` rows of `w` pixels, and its pixel `(i, j)` is pixel `(oi + i, oj + j)` of the image, which exists -/
theorem C20_crop_window {α} (img : List (List α)) (H W h w oi oj : Nat)
    (hH : img.length = H) (hW : ∀ row ∈ img, row.length = W)
    (hi : oi + h ≤ H) (hj : oj + w ≤ W) :
    (crop h w oi oj img).length = h ∧
    (∀ row ∈ crop h w oi oj img, row.length = w) ∧
    (∀ i j, i < h → j < w →
      ((crop h w oi oj img)[i]?.bind (·[j]?)) = (img[oi + i]?.bind (·[oj + j]?)) ∧
      (img[oi + i]?.bind (·[oj + j]?)).isSome) := by
  refine ⟨?_, ?_, fun i j hi' hj' => ⟨?_, ?_⟩⟩
  · rw [crop, List.length_map]
    exact length_take_drop (hH ▸ hi)
  · exact List.forall_mem_map.2 fun r hr =>
      length_take_drop (hW r (List.mem_of_mem_drop (List.mem_of_mem_take hr)) ▸ hj)
  · -- the index equation holds whatever the shape of `img`; only the other parts use it
    simp only [crop, List.getElem?_map, List.getElem?_take, List.getElem?_drop, if_pos hi',
      Option.bind_map, Function.comp_def, if_pos hj']
  · have hlt : oi + i < img.length := hH ▸ (Nat.add_lt_add_left hi' oi).trans_le hi
    rw [List.getElem?_eq_getElem hlt, Option.bind_some, isSome_getElem?,
      hW _ (List.getElem_mem hlt)]
    exact (Nat.add_lt_add_left hj' oj).trans_le hj

/-- `np.flip(axis=-2)` on rows of width `w`: pixel `(i, j)` of the flipped image is pixel
`(i, w - 1 - j)` of the image -/
theorem C20_crop_flip {α} (img : List (List α)) (w : Nat) (hW : ∀ row ∈ img, row.length = w)
    (i j : Nat) (hj : j < w) :
    ((flipLR img)[i]?.bind (·[j]?)) = (img[i]?.bind (·[w - 1 - j]?)) := by
  simp only [flipLR, List.getElem?_map]
  cases h : img[i]? with
  | none => rfl
  | some row =>
    have hl : row.length = w := hW row (List.mem_of_getElem? h)
    simp only [Option.map_some, Option.bind_some]
    rw [List.getElem?_reverse (hl ▸ hj), hl]


section affine
variable {K : Type} [Field K]

theorem stdFloor_eq (sqrt : K → K) (n : Nat) : stdFloor sqrt n = 1 / sqrt (n : K) := by
  rw [stdFloor, Nat.cast_one]

theorem sum_map_sub_div (xs : List K) (c d : K) :
    (xs.map fun x => (x - c) / d).sum = (xs.sum - (xs.length : K) * c) / d := by
  simp only [div_eq_mul_inv, sub_eq_add_neg, List.sum_map_mul_right, List.sum_map_add, List.map_id',
    List.map_const', List.sum_replicate, nsmul_eq_mul, mul_neg]

theorem mean_map_sub_div {xs : List K} (hn : (xs.length : K) ≠ 0) (c d : K) :
    mean (xs.map fun x => (x - c) / d) = (mean xs - c) / d := by
  unfold mean
  rw [sum_map_sub_div, List.length_map, div_right_comm, sub_div, mul_div_cancel_left₀ _ hn]

theorem variance_map_sub_div {xs : List K} (hn : (xs.length : K) ≠ 0) (c d : K) :
    variance (xs.map fun x => (x - c) / d) = variance xs / (d * d) := by
  unfold variance
  rw [mean_map_sub_div hn, List.map_map, List.length_map, div_right_comm]
  simp only [Function.comp_def, ← sub_div, sub_sub_sub_cancel_right, div_mul_div_comm,
    div_eq_mul_inv _ (d * d), List.sum_map_mul_right]

end affine

section field
variable {K : Type} [Field K] [LinearOrder K]

/-- the facts about the square root the theorems use -/
structure IsSqrt (sqrt : K → K) : Prop where
  nonneg : ∀ x, 0 ≤ x → 0 ≤ sqrt x
  sq : ∀ x, 0 ≤ x → sqrt x * sqrt x = x

theorem IsSqrt.pos {sqrt : K → K} (hs : IsSqrt sqrt) {x : K} (hx : 0 < x) : 0 < sqrt x :=
  (hs.nonneg x hx.le).lt_of_ne fun h => hx.ne' (by rw [← hs.sq x hx.le, ← h, mul_zero])

/-- the divisor `max(std, 1/sqrt n)` -/
def adjStd (sqrt : K → K) (xs : List K) : K :=
  max (sqrt (variance xs)) (stdFloor sqrt xs.length)

theorem standardise_eq (sqrt : K → K) (xs : List K) :
    standardise sqrt xs = xs.map fun x => (x - mean xs) / adjStd sqrt xs := rfl

variable [IsStrictOrderedRing K]

theorem length_cast_ne_zero {xs : List K} (hne : xs ≠ []) : (xs.length : K) ≠ 0 :=
  Nat.cast_ne_zero.2 (List.length_pos_of_ne_nil hne).ne'

theorem variance_nonneg (xs : List K) : 0 ≤ variance xs :=
  div_nonneg (List.sum_nonneg (List.forall_mem_map.2 fun _ _ => mul_self_nonneg _))
    (Nat.cast_nonneg _)

theorem stdFloor_pos {sqrt : K → K} (hs : IsSqrt sqrt) {n : Nat} (hn : 0 < n) :
    0 < stdFloor sqrt n :=
  stdFloor_eq sqrt n ▸ one_div_pos.2 (hs.pos (Nat.cast_pos.2 hn))

theorem adjStd_pos {sqrt : K → K} (hs : IsSqrt sqrt) {xs : List K} (hne : xs ≠ []) :
    0 < adjStd sqrt xs :=
  lt_max_of_lt_right (stdFloor_pos hs (List.length_pos_of_ne_nil hne))

/-- per-image standardisation has mean 0 (in fact the sum of the outputs is 0), for every non-empty
image -/
theorem C20_standardise_mean (sqrt : K → K) (xs : List K) (hne : xs ≠ []) :
    (standardise sqrt xs).sum = 0 ∧ mean (standardise sqrt xs) = 0 := by
  have hn : (xs.length : K) ≠ 0 := length_cast_ne_zero hne
  have h : (standardise sqrt xs).sum = 0 := by
    rw [standardise_eq, sum_map_sub_div, mean, mul_div_cancel₀ _ hn, sub_self, zero_div]
  exact ⟨h, by rw [mean, h, zero_div]⟩

/-- per-image standardisation gives unit variance whenever the standard deviation is at least the floor
`1/sqrt n` -/
theorem C20_standardise_var (sqrt : K → K) (hs : IsSqrt sqrt) (xs : List K) (hne : xs ≠ [])
    (hfloor : stdFloor sqrt xs.length ≤ sqrt (variance xs)) :
    variance (standardise sqrt xs) = 1 := by
  have hpos := adjStd_pos hs hne
  have hv := hs.sq _ (variance_nonneg xs)
  rw [adjStd, max_eq_left hfloor] at hpos
  rw [standardise_eq, variance_map_sub_div (length_cast_ne_zero hne), adjStd,
    max_eq_left hfloor, hv]
  exact div_self (hv ▸ mul_self_ne_zero.2 hpos.ne')

omit [IsStrictOrderedRing K] in
/-- per-image standardisation scales low-contrast images by `sqrt n` (so their variance is `n·σ² ≤ 1`,
not 1) -/
theorem C20_standardise_low (sqrt : K → K) (xs : List K)
    (hlow : sqrt (variance xs) ≤ stdFloor sqrt xs.length) :
    standardise sqrt xs = xs.map fun x => (x - mean xs) / (1 / sqrt (xs.length : K)) := by
  rw [standardise_eq, adjStd, max_eq_right hlow, stdFloor_eq]

/-- a constant image is mapped to the all-zero image (no division by zero) -/
theorem C20_standardise_const (sqrt : K → K) (hs : IsSqrt sqrt) (n : Nat) (hn : 0 < n) (c : K) :
    standardise sqrt (List.replicate n c) = List.replicate n 0 := by
  -- `hs` is not needed: every numerator is `c - c = 0`, and `0 / d = 0` whatever the divisor
  have hn' : (n : K) ≠ 0 := Nat.cast_ne_zero.2 hn.ne'
  have hm : mean (List.replicate n c) = c := by
    rw [mean, List.sum_replicate, List.length_replicate, nsmul_eq_mul, mul_div_cancel_left₀ _ hn']
  rw [standardise_eq, hm, List.map_replicate, sub_self, zero_div]

omit [IsStrictOrderedRing K] in
theorem standardise_length (sqrt : K → K) (xs : List K) :
    (standardise sqrt xs).length = xs.length := List.length_map _

end field

theorem real_isSqrt : IsSqrt Real.sqrt :=
  ⟨fun x _ => Real.sqrt_nonneg x, fun _ h => Real.mul_self_sqrt h⟩

/-- The statement of the property over `ℝ` with the real square root: per-image standardisation
has mean 0; unit variance when `σ ≥ 1/√n`; and a constant image becomes 0. -/
theorem C20_standardise (xs : List ℝ) (hne : xs ≠ []) :
    mean (standardise Real.sqrt xs) = 0 ∧
    (stdFloor Real.sqrt xs.length ≤ Real.sqrt (variance xs) →
      variance (standardise Real.sqrt xs) = 1) ∧
    (∀ c, xs = List.replicate xs.length c → standardise Real.sqrt xs = List.replicate xs.length 0) :=
  ⟨(C20_standardise_mean _ xs hne).2, C20_standardise_var _ real_isSqrt xs hne,
   fun c h => by
    rw [h, List.length_replicate]
    exact C20_standardise_const _ real_isSqrt _ (List.length_pos_of_ne_nil hne) c⟩


theorem isSpecial_iff (d : DatasetIds) (v : Nat) :
    isSpecial d v = true ↔ v = d.pad ∨ v = d.bos ∨ v = d.eos ∨ v ∈ d.oov := by
  simp only [isSpecial, Bool.or_eq_true, beq_iff_eq, List.contains_iff_mem, or_assoc]

theorem forall_eq_some_iff {α} {P : α → Prop} :
    ∀ o : Option α, (∀ a, o = some a → P a) ↔ o.elim True P
  | none => iff_of_true nofun trivial
  | some a => ⟨fun H => H a rfl, fun hp _ e => Option.some.inj e ▸ hp⟩

/-- what the driver's Boolean says, as a proposition: the model's output width is the dataset's
vocabulary size and every metric masks the dataset's PAD, masks only special labels (never a
vocabulary label) as a target, masks only special labels as a prediction (over a mask of vocabulary
width), and uses the dataset's OOV set and EOS id. -/
theorem C20_labels_agree (d : DatasetIds) (m : ModelIds) :
    labelsAgree d m = true ↔
      m.width = d.vocab ∧ ∀ k ∈ m.metrics,
        d.pad ∈ k.masked ∧ (∀ v ∈ k.masked, v = d.pad ∨ v = d.bos ∨ v = d.eos ∨ v ∈ d.oov) ∧
        (∀ ws, k.logitsMask = some ws → ws.1 = d.vocab ∧
            ∀ v ∈ ws.2, v = d.pad ∨ v = d.bos ∨ v = d.eos ∨ v ∈ d.oov) ∧
        (∀ o, k.oov = some o → (∀ v, v ∈ o ↔ v ∈ d.oov)) ∧
        (∀ e, k.eos = some e → e = d.eos) := by
  simp only [labelsAgree, metricAgrees, Bool.and_eq_true, beq_iff_eq, List.all_eq_true, and_assoc,
    forall_eq_some_iff]
  -- each conjunct is translated by itself; the optional ones are a `match` on the left and an
  -- `Option.elim` on the right, which `cases` reduces to their arms
  refine and_congr_right fun _ => forall₂_congr fun k _ => and_congr List.contains_iff_mem
    (and_congr (forall₂_congr fun v _ => isSpecial_iff d v) (and_congr ?_ (and_congr ?_ ?_)))
  · cases k.logitsMask <;>
      simp only [Option.elim, Bool.and_eq_true, beq_iff_eq, List.all_eq_true, isSpecial_iff]
  · cases k.oov <;>
      simp only [Option.elim, Bool.and_eq_true, List.all_eq_true, List.contains_iff_mem, iff_def,
        forall_and]
  · cases k.eos <;> simp only [Option.elim, beq_iff_eq]


/-! The StackOverflow statements write `Stackoverflow.` in full: its `PAD`, `BOS`, `EOS` would clash with
`Shakespeare`'s, which is open in this file. -/

section so
open Stackoverflow

theorem toDense_length {L : Nat} {r : List Nat} : (toDense L r).length = L := by
  rw [toDense, List.length_append, List.length_take, List.length_replicate, Nat.add_comm,
    Nat.sub_add_min_cancel]

theorem toDense_getElem? {L : Nat} {r : List Nat} {t : Nat} (ht : t < L) (hr : t < r.length) :
    (toDense L r)[t]? = r[t]? := by
  rw [toDense, List.getElem?_append_left (List.length_take ▸ Nat.lt_min.2 ⟨ht, hr⟩),
    List.getElem?_take, if_pos ht]

end so

/-- StackOverflow tokenizer, layout: both rows have exactly this preprocessor's `max_length`; `x` is
`BOS, words+3` cut/padded, `y` is `words+3, EOS` cut/padded. -/
theorem C20_so_layout (nv L : Nat) (ws : List (Option Nat)) :
    (Stackoverflow.tokenize nv L ws).1.length = L ∧ (Stackoverflow.tokenize nv L ws).2.length = L ∧
    (Stackoverflow.tokenize nv L ws).1 = Stackoverflow.toDense L (Stackoverflow.BOS :: ws.map (fun w => Stackoverflow.lookup nv w + 3)) ∧
    (Stackoverflow.tokenize nv L ws).2 = Stackoverflow.toDense L (ws.map (fun w => Stackoverflow.lookup nv w + 3) ++ [Stackoverflow.EOS]) :=
  ⟨toDense_length, toDense_length,
    congrArg (Stackoverflow.toDense L) (List.dropLast_concat (l₁ := Stackoverflow.BOS :: _)), rfl⟩

/-- StackOverflow tokenizer: targets are inputs shifted by one inside the kept, unpadded part -/
theorem C20_so_shift (nv L : Nat) (ws : List (Option Nat)) (t : Nat)
    (ht : t + 1 < L) (hw : t + 1 ≤ ws.length) :
    (Stackoverflow.tokenize nv L ws).2[t]? = (Stackoverflow.tokenize nv L ws).1[t + 1]? ∧
    (Stackoverflow.tokenize nv L ws).2[t]? = (ws[t]?).map (fun w => Stackoverflow.lookup nv w + 3) := by
  obtain ⟨_, _, hx, hy⟩ := C20_so_layout nv L ws
  have hw' : t < (ws.map fun w => Stackoverflow.lookup nv w + 3).length := by
    rwa [List.length_map]
  rw [hx, hy, toDense_getElem? (Nat.lt_of_succ_lt ht) (List.length_append ▸ Nat.lt_add_right 1 hw'),
    toDense_getElem? ht (List.length_cons ▸ Nat.succ_lt_succ hw'), List.getElem?_append_left hw',
    List.getElem?_cons_succ, List.getElem?_map]
  exact ⟨rfl, rfl⟩

/-- truncation at `max_length`: a sentence of `n` words keeps its EOS iff `n + 1 ≤ L`; then the
row is `words, EOS, PAD…`; otherwise the row is the first `L` word labels (no EOS, no PAD). -/
theorem C20_so_truncation (nv L : Nat) (ws : List (Option Nat)) :
    (ws.length + 1 ≤ L →
      (Stackoverflow.tokenize nv L ws).2 = ws.map (fun w => Stackoverflow.lookup nv w + 3) ++ Stackoverflow.EOS ::
        List.replicate (L - (ws.length + 1)) Stackoverflow.PAD) ∧
    (L < ws.length + 1 →
      (Stackoverflow.tokenize nv L ws).2 = (ws.map (fun w => Stackoverflow.lookup nv w + 3)).take L ∧
      Stackoverflow.EOS ∉ (Stackoverflow.tokenize nv L ws).2 ∧ Stackoverflow.PAD ∉ (Stackoverflow.tokenize nv L ws).2) := by
  obtain ⟨_, _, _, hy⟩ := C20_so_layout nv L ws
  have hlen : (ws.map (fun w => Stackoverflow.lookup nv w + 3) ++ [Stackoverflow.EOS]).length
      = ws.length + 1 := by
    rw [List.length_append, List.length_map, List.length_singleton]
  constructor
  · intro h
    rw [hy, Stackoverflow.toDense, List.take_of_length_le (hlen ▸ h), hlen, List.append_assoc]
    rfl
  · intro h
    rw [hy, Stackoverflow.toDense, hlen, Nat.sub_eq_zero_of_le h.le, List.replicate_zero,
      List.append_nil, List.take_append_of_le_length
        ((Nat.le_of_lt_succ h).trans_eq (List.length_map _).symm)]
    -- a word label is `≥ 3`, so it is neither `EOS = 2` nor `PAD = 0`
    have hword : ∀ v ∈ (ws.map fun w => Stackoverflow.lookup nv w + 3).take L, 3 ≤ v := fun v hv =>
      List.forall_mem_map.2 (fun _ _ => Nat.le_add_left _ _) v (List.mem_of_mem_take hv)
    exact ⟨rfl, fun h => absurd (hword _ h) (by decide), fun h => absurd (hword _ h) (by decide)⟩

/-- StackOverflow tokenizer: every label is below the vocabulary size `nv + 4` (ids of in-vocabulary
words `< nv`) -/
theorem C20_so_range (nv L : Nat) (ws : List (Option Nat)) (hws : ∀ i, some i ∈ ws → i < nv) :
    (∀ v ∈ (Stackoverflow.tokenize nv L ws).1, v < nv + 4) ∧ (∀ v ∈ (Stackoverflow.tokenize nv L ws).2, v < nv + 4) := by
  have hword : ∀ w ∈ ws, Stackoverflow.lookup nv w + 3 < nv + 4
    | none, _ => Nat.add_lt_add_left (by decide) nv
    | some i, hw => Nat.add_lt_add (hws i hw) (by decide)
  have hids : ∀ v ∈ Stackoverflow.tokenIds nv ws, v < nv + 4 :=
    List.forall_mem_cons.2 ⟨Nat.lt_add_left nv (by decide), List.forall_mem_append.2
      ⟨List.forall_mem_map.2 hword, List.forall_mem_singleton.2 (Nat.lt_add_left nv (by decide))⟩⟩
  have hd : ∀ r : List Nat, (∀ v ∈ r, v < nv + 4) → ∀ v ∈ Stackoverflow.toDense L r, v < nv + 4 :=
    fun r hr => List.forall_mem_append.2 ⟨fun v hv => hr v (List.mem_of_mem_take hv),
      List.forall_mem_replicate.2 (.inr (Nat.succ_pos _))⟩
  exact ⟨hd _ fun v hv => hids v (List.dropLast_subset _ hv),
    hd _ fun v hv => hids v (List.mem_of_mem_tail hv)⟩


theorem maskedSum_all_pad {pad : Nat} {targets : List Nat} (ce : List Rat)
    (h : ∀ t ∈ targets, t = pad) : Loss.maskedSum pad targets ce = 0 := by
  unfold Loss.maskedSum Loss.masked
  refine List.sum_eq_zero fun x hx => ?_
  obtain ⟨i, hi, rfl⟩ := List.mem_iff_getElem.mp hx
  rw [List.getElem_zipWith, if_pos (h _ (List.getElem_mem _))]

theorem maskedSum_append {pad : Nat} {ts ts' : List Nat} {ce ce' : List Rat}
    (hlen : ce.length = ts.length) :
    Loss.maskedSum pad (ts ++ ts') (ce ++ ce') = Loss.maskedSum pad ts ce + Loss.maskedSum pad ts' ce' := by
  simp only [Loss.maskedSum, Loss.masked]
  rw [List.zipWith_append hlen.symm, List.sum_append]

/-- the per-token losses at PAD targets never reach `train_loss`: two per-token loss vectors that agree
wherever the target is not PAD give the same StackOverflow loss (with or without `expected_length`)
and the same Shakespeare loss -/
theorem C20_loss_pad_invariant (pad : Nat) (el : Option Rat) (targets : List Nat) (ce ce' : List Rat)
    (hlen : ce.length = ce'.length)
    (h : ∀ i : Nat, targets[i]? ≠ some pad → ce[i]? = ce'[i]?) :
    Loss.soLoss pad el targets ce = Loss.soLoss pad el targets ce' ∧
    Loss.shkLoss pad targets ce = Loss.shkLoss pad targets ce' := by
  have hm : Loss.masked pad targets ce = Loss.masked pad targets ce' := by
    unfold Loss.masked
    refine List.ext_getElem (by rw [List.length_zipWith, List.length_zipWith, hlen]) fun i h1 h2 => ?_
    rw [List.length_zipWith, Nat.lt_min] at h1 h2
    rw [List.getElem_zipWith, List.getElem_zipWith]
    split
    · rfl
    · next hp =>
      have := h i (by rwa [List.getElem?_eq_getElem h1.1, ne_eq, Option.some_inj])
      rwa [List.getElem?_eq_getElem h1.2, List.getElem?_eq_getElem h2.2, Option.some_inj] at this
  simp only [Loss.soLoss, Loss.shkLoss, Loss.maskedSum, hm, and_self]

/-- an all-PAD row (a batch-padding row, or an empty sentence row) has loss 0 -/
theorem C20_loss_all_pad (pad : Nat) (el : Option Rat) (targets : List Nat) (ce : List Rat)
    (h : ∀ t ∈ targets, t = pad) :
    Loss.soLoss pad el targets ce = 0 ∧ Loss.shkLoss pad targets ce = 0 := by
  have hm := maskedSum_all_pad ce h
  constructor
  · cases el <;> simp only [Loss.soLoss, hm, Rat.zero_mul]
  · rw [Loss.shkLoss, hm, zero_div]

/-- the loss is the PAD-masked sum over the non-PAD positions only: appending PAD positions
(a longer `max_length`) does not change the StackOverflow loss -/
theorem C20_loss_padding_irrelevant (pad : Nat) (el : Option Rat) (targets : List Nat) (ce : List Rat)
    (hlen : ce.length = targets.length) (k : Nat) (junk : List Rat) (hj : junk.length = k) :
    Loss.soLoss pad el (targets ++ List.replicate k pad) (ce ++ junk) = Loss.soLoss pad el targets ce := by
  -- `hj` is not needed: `zipWith` stops at the shorter list, and every appended target is PAD
  simp only [Loss.soLoss, maskedSum_append hlen,
    maskedSum_all_pad _ fun _ => List.eq_of_mem_replicate, add_zero]

/-- row independence: the loss of row `i` of a batch is the loss of that row alone, so replacing
the other rows or permuting the batch cannot change it -/
theorem C20_loss_row_independent (f : List Nat → List Rat → Rat) (rows : List (List Nat × List Rat)) :
    (∀ i : Nat, (Loss.batchLoss f rows)[i]? = (rows[i]?).map (fun r : List Nat × List Rat => f r.1 r.2)) ∧
    (∀ rows', rows.Perm rows' → (Loss.batchLoss f rows).Perm (Loss.batchLoss f rows')) :=
  ⟨fun _ => List.getElem?_map, fun _ hp => hp.map _⟩

/-- the expected-length variant is the unscaled loss times the constant `1 / expected_length` -/
theorem C20_loss_scale (pad : Nat) (e : Rat) (targets : List Nat) (ce : List Rat) :
    Loss.soLoss pad (some e) targets ce = Loss.soLoss pad none targets ce * (1 / e) := rfl


/-- a table with values in `[3, 90)` like the real one -/
def exTable : Nat → Nat := fun b => 3 + b % 86

theorem exTable_ok : ∀ b, 3 ≤ exTable b ∧ exTable b < 90 := fun b =>
  ⟨Nat.le_add_right 3 _,
    Nat.lt_trans (Nat.add_lt_add_left (Nat.mod_lt b (Nat.succ_pos 85)) 3) (by decide)⟩

-- the docstring example `[b'ABCD', b'E']`, `L = 3`
example : preprocess exTable 3 [[65, 66, 67, 68], [69]] =
    ([[1, 68, 69], [70, 71, 2], [1, 72, 0]], [[68, 69, 70], [71, 2, 1], [72, 2, 0]]) := by decide +kernel

example := C20_shk_lossless exTable 3 [[65, 66, 67, 68], [69]] (by decide)
  (fun b => (exTable_ok b).1)
example := C20_shk_shift exTable 3 [[65, 66, 67, 68], [69]] (by decide) 6 (by decide)
example := C20_shk_range exTable 90 3 [[65, 66, 67, 68], [], [255]] exTable_ok
example := C20_shk_rows exTable 3 [[65, 66, 67, 68], [69]] (by decide)
example := C20_shk_rows exTable 2 [] (by decide)
example := C20_shk_bos_eos exTable 2 [[], [7]] (by decide) (by simp)
-- a length that is exactly a multiple of `L` gets no padding row
example : (preprocess exTable 4 [[65, 66, 67]]).1 = [[1, 68, 69, 70]] := by decide +kernel

example : domainId ("f2100_45".toList.map Char.toNat) = some 0 := by decide +kernel
example : domainId ("0123456789abcdef:f2600_00".toList.map Char.toNat) = some 1 := by decide +kernel
example := C20_emnist_domain 2599 (by decide) [102] [95, 48, 49] rfl
example := C20_emnist_rejects [102, 50] (by decide) (by decide)
example : domainId ("f21x0_45".toList.map Char.toNat) = none := by decide +kernel

example := C20_crop_offsets 1234567 32 24
example := C20_crop_window [[0, 1, 2, 3], [4, 5, 6, 7], [8, 9, 10, 11], [12, 13, 14, 15]] 4 4 2 2 1 2
  rfl (by decide) (by decide) (by decide)
example : cropTff 4 4 2 2 none [[0, 1, 2, 3], [4, 5, 6, 7], [8, 9, 10, 11], [12, 13, 14, 15]]
    = [[5, 6], [9, 10]] := by decide +kernel
example : cropTff 4 4 2 3 (some (7, 5, true)) [[0, 1, 2, 3], [4, 5, 6, 7], [8, 9, 10, 11], [12, 13, 14, 15]]
    = [[7, 6, 5], [11, 10, 9]] := by decide +kernel
example := C20_crop_flip [[5, 6], [9, 10]] 2 (by decide) 1 0 (by decide)

-- the square-root hypothesis is satisfiable (`ℝ`), and both branches of the floor occur
example : IsSqrt Real.sqrt := real_isSqrt

theorem variance_zero_two : variance [(0 : ℝ), 2] = 1 := by
  norm_num [variance, mean]

theorem floor_le_zero_two :
    stdFloor Real.sqrt [(0 : ℝ), 2].length ≤ Real.sqrt (variance [(0 : ℝ), 2]) := by
  rw [variance_zero_two, Real.sqrt_one, stdFloor_eq, one_div]
  exact inv_le_one_of_one_le₀ (Real.one_le_sqrt.2 (Nat.one_le_cast.2 (by decide)))

example : variance [(0 : ℝ), 2] = 1 := variance_zero_two
example : stdFloor Real.sqrt [(0 : ℝ), 2].length ≤ Real.sqrt (variance [(0 : ℝ), 2]) :=
  floor_le_zero_two
example : variance (standardise Real.sqrt [(0 : ℝ), 2]) = 1 :=
  C20_standardise_var _ real_isSqrt _ (by simp) floor_le_zero_two
example : Real.sqrt (variance [(7 : ℝ), 7]) ≤ stdFloor Real.sqrt [(7 : ℝ), 7].length := by
  have h : variance [(7 : ℝ), 7] = 0 := by norm_num [variance, mean]
  rw [h, Real.sqrt_zero]
  exact (stdFloor_pos real_isSqrt (by decide)).le
example := C20_standardise_mean Real.sqrt [(100 : ℝ), 101, 109] (by simp)
example := C20_standardise_const Real.sqrt real_isSqrt 1728 (by decide) (37 : ℝ)
example := C20_standardise [(100 : ℝ), 101, 109] (by simp)

/-- the ids of `fedjax/datasets/shakespeare.py` -/
def exShk : DatasetIds := ⟨0, 1, 2, [89], 90⟩
-- the repaired model configuration agrees …
example : labelsAgree exShk ⟨90, [⟨[0, 2], some (90, [0, 1, 2, 89]), none, none⟩,
    ⟨[0], none, some [89], none⟩, ⟨[0], none, none, some 2⟩]⟩ = true := by decide +kernel
-- … and the unrepaired one (`bos = 87, eos = 88`, DESIGN §6 row 17) does not.
example : labelsAgree exShk ⟨90, [⟨[0, 88], some (90, [0, 87, 88, 89]), none, none⟩,
    ⟨[0], none, some [89], none⟩]⟩ = false := by decide +kernel

-- StackOverflow tokeniser: padding, truncation, OOV
example : Stackoverflow.tokenize 3 4 [some 0, none, some 2] = ([1, 3, 6, 5], [3, 6, 5, 2]) := by decide +kernel
example : Stackoverflow.tokenize 3 2 [some 0, none, some 2] = ([1, 3], [3, 6]) := by decide +kernel
example : Stackoverflow.tokenize 3 6 [some 0] = ([1, 3, 0, 0, 0, 0], [3, 2, 0, 0, 0, 0]) := by decide +kernel
example := C20_so_shift 3 4 [some 0, none, some 2] 2 (by decide) (by decide)
example := (C20_so_truncation 3 2 [some 0, none, some 2]).2 (by decide)
example := C20_so_range 3 4 [some 0, none, some 2] (by simp)

example : Loss.soLoss 0 none [3, 2, 0] [1/2, 1/4, 7] = 3/4 := by decide +kernel
example : Loss.soLoss 0 (some (133/10)) [3, 2, 0] [1/2, 1/4, 7] = 3/4 * (10/133) := by decide +kernel
example : Loss.shkLoss 0 [3, 2, 0, 0] [1/2, 1/4, 7, 9] = 3/16 := by decide +kernel
example := C20_loss_pad_invariant 0 (some (133/10)) [3, 2, 0] [1/2, 1/4, 7] [1/2, 1/4, -100] rfl
  fun
    | 0 | 1 | _ + 3 => fun _ => rfl
    | 2 => fun h => absurd rfl h
example := C20_loss_all_pad 0 (some 2) [0, 0, 0] [5, 6, 7] (by simp)
example := C20_loss_padding_irrelevant 0 none [3, 2] [1/2, 1/4] rfl 2 [9, 9] rfl
example := (C20_loss_row_independent (Loss.soLoss 0 none) [([3, 2, 0], [1/2, 1/4, 7]), ([0, 0, 0], [1, 1, 1])]).1 1

end FedjaxVerif.C20
