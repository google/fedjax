import FedjaxVerif.Model.FedData
import FedjaxVerif.Model.Centralised
import FedjaxVerif.Lemmas.BufferedShuffle
import Mathlib.Data.List.Perm.Basic
import Mathlib.Data.List.Nodup
import Mathlib.Data.List.Lex

/-!
# C08 — all federated-dataset implementations expose the same mapping

Property theorems about `Model/FedData.lean`.  `FD` is the union of the three implementations
(`mem` = `InMemoryFederatedData`, `sql` = `SQLiteFederatedData`, `sub` = `SubsetFederatedData` over any
base), `View` is the specification (a plain mapping `id ↦ examples` + preprocessor chains).
All statements quantify over every id type with a strict total order (bytes: `bytes_strictTotal`),
every example type, every table with distinct ids, every finite sequence of view operations.

`abs` maps a state to the view it stands for and `Denotes fd v` says that `fd` is well formed and stands
for `v` up to the order of the entries.  A state shows what it denotes on every access path
(`Denotes.refines`) and every operation takes related arguments to related results (`Denotes.apply`, with
`RelE` for the exceptions); the theorems about histories are the fold of these two.
-/

namespace FedjaxVerif.FedData

-- the sections below declare `[DecidableEq Id] [LT Id] [DecidableLT Id]` once, and a lemma takes all of them
-- whether or not it needs them (`ViewEq.getClient` receives `[LT Id]` and never compares)
set_option linter.unusedSectionVars false

/-- the facts about `<` on client ids that the range logic relies on (Python `bytes`, SQLite BLOB). -/
structure StrictTotal (Id : Type) [LT Id] : Prop where
  irrefl : ∀ a : Id, ¬ a < a
  trans : ∀ a b c : Id, a < b → b < c → a < c
  total : ∀ a b : Id, a < b ∨ a = b ∨ b < a

/-- byte strings (`List Nat`) under the lexicographic order used by the driver. -/
theorem bytes_strictTotal : StrictTotal (List Nat) :=
  ⟨fun a => lt_irrefl a, fun _ _ _ => lt_trans, fun a b => lt_trichotomy a b⟩

section
variable {Id E : Type} [DecidableEq Id]

/-- `View.ids v` is `keys v.content` by definition. -/
def keys (t : List (Id × E)) : List Id := t.map (·.1)

theorem lookup_eq_none_iff {i : Id} {t : List (Id × E)} : lookup i t = none ↔ i ∉ keys t := by
  induction t with
  | nil => simp [lookup, keys]
  | cons p t ih =>
    obtain ⟨k, v⟩ := p
    rw [lookup, keys, List.map_cons, List.mem_cons, not_or]
    split
    · next hk => exact ⟨nofun, fun h => absurd hk.symm h.1⟩
    · next hk => exact ih.trans ⟨fun h => ⟨fun e => hk e.symm, h⟩, fun h => h.2⟩

theorem lookup_isSome_iff {i : Id} {t : List (Id × E)} : (lookup i t).isSome ↔ i ∈ keys t := by
  rw [← not_iff_not, ← lookup_eq_none_iff]
  cases lookup i t <;> simp

theorem lookup_eq_some_iff {i : Id} {e : E} {t : List (Id × E)} (hn : (keys t).Nodup) :
    lookup i t = some e ↔ (i, e) ∈ t := by
  induction t with
  | nil => simp [lookup]
  | cons p t ih =>
    obtain ⟨k, v⟩ := p
    rw [keys, List.map_cons, List.nodup_cons] at hn
    rw [lookup, List.mem_cons, Prod.mk.injEq, ← ih hn.2]
    split
    · next hk =>
      rw [lookup_eq_none_iff.mpr (hk ▸ hn.1)]
      simp [hk, eq_comm]
    · next hk => simp [Ne.symm hk]

theorem keys_perm {t t' : List (Id × E)} (h : t.Perm t') : (keys t).Perm (keys t') := h.map _

theorem lookup_perm {t t' : List (Id × E)} (hn : (keys t).Nodup) (h : t.Perm t') (i : Id) :
    lookup i t = lookup i t' :=
  Option.ext fun e => by
    rw [lookup_eq_some_iff hn, lookup_eq_some_iff ((keys_perm h).nodup_iff.mp hn), h.mem_iff]

theorem lookup_filter (P : Id → Bool) (i : Id) (t : List (Id × E)) :
    lookup i (t.filter fun p => P p.1) = if P i then lookup i t else none := by
  induction t with
  | nil => simp [lookup]
  | cons p t ih =>
    obtain ⟨k, v⟩ := p
    rw [List.filter_cons]
    by_cases hk : k = i
    · subst hk
      cases hP : P k <;> simp [lookup, ih, hP]
    · cases hP : P k <;> simp [lookup, ih, hk]

theorem keys_filter (P : Id → Bool) (t : List (Id × E)) :
    keys (t.filter fun p => P p.1) = (keys t).filter P := by
  unfold keys
  rw [List.filter_map]
  rfl

theorem nodup_keys_filter (P : Id → Bool) {t : List (Id × E)} (hn : (keys t).Nodup) :
    (keys (t.filter fun p => P p.1)).Nodup := by
  rw [keys_filter]
  exact hn.filter _

theorem filterMap_keys_filter {β : Type} (f : Id → E → β) (P : Id → Bool) {t : List (Id × E)}
    (hn : (keys t).Nodup) :
    ((keys t).filter P).filterMap (fun i => (lookup i t).map (f i))
      = (t.filter fun p => P p.1).map fun p => f p.1 p.2 := by
  rw [keys, List.filter_map, List.filterMap_map, ← List.filterMap_eq_map']
  refine List.filterMap_congr fun p hp => ?_
  rw [Function.comp, (lookup_eq_some_iff hn (i := p.1) (e := p.2)).mpr (List.mem_filter.mp hp).1]
  rfl

theorem filterMap_keys {β : Type} (f : Id → E → β) {t : List (Id × E)} (hn : (keys t).Nodup) :
    (keys t).filterMap (fun i => (lookup i t).map (f i)) = t.map fun p => f p.1 p.2 := by
  simpa only [List.filter_true] using filterMap_keys_filter f (fun _ => true) hn

theorem getMany_congr {D : Type} {g g' : Id → Option D} {req : List Id} (h : ∀ i ∈ req, g i = g' i) :
    getMany g req = getMany g' req := by
  induction req with
  | nil => rfl
  | cons i is ih =>
    rw [getMany, getMany, h i List.mem_cons_self, ih fun j hj => h j (List.mem_cons_of_mem _ hj)]

theorem getMany_all_some {D : Type} (g : Id → Option D) (req : List Id)
    (h : ∀ i ∈ req, (g i).isSome) :
    getMany g req = (req.filterMap fun i => (g i).map fun d => (i, d), false) := by
  induction req with
  | nil => rfl
  | cons i is ih =>
    obtain ⟨d, hd⟩ := Option.isSome_iff_exists.mp (h i List.mem_cons_self)
    rw [getMany, hd, ih fun j hj => h j (List.mem_cons_of_mem _ hj), List.filterMap_cons, hd]
    rfl

theorem subFilter_getMany {D : Type} (set : List Id) (g : Id → Option D) (req : List Id) :
    subFilter set (getMany g req).1 (getMany g req).2
      = getMany (fun i => if i ∈ set then g i else none) req := by
  induction req with
  | nil => rfl
  | cons i is ih =>
    by_cases hs : i ∈ set <;> cases hg : g i <;>
      simp [getMany, hg, hs, subFilter, ih]

theorem mem_dedupIds {i : Id} {l : List Id} : i ∈ dedupIds l ↔ i ∈ l := by
  induction l with
  | nil => simp [dedupIds]
  | cons x xs ih =>
    rw [dedupIds, List.mem_cons]
    split
    · next h => exact ih.trans ⟨Or.inr, fun h' => h'.elim (· ▸ h) id⟩
    · rw [List.mem_cons, ih]

theorem nodup_dedupIds (l : List Id) : (dedupIds l).Nodup := by
  induction l with
  | nil => simp [dedupIds]
  | cons x xs ih =>
    by_cases h : x ∈ xs
    · simp [dedupIds, h, ih]
    · simp [dedupIds, h, ih, mem_dedupIds]

/-- the view restricted to the ids that pass `P`: what a range (`abs (.sql q)`, `Op.slice`) and a set
(`abs (.sub b set)`, `Op.subset`) make of a mapping -/
def View.filter (v : View Id E) (P : Id → Bool) : View Id E :=
  { v with content := v.content.filter fun p => P p.1 }

theorem View.ids_filter (v : View Id E) (P : Id → Bool) : (v.filter P).ids = v.ids.filter P :=
  keys_filter P v.content

theorem View.nodup_filter {v : View Id E} (hn : v.ids.Nodup) (P : Id → Bool) : (v.filter P).ids.Nodup :=
  nodup_keys_filter P hn

theorem View.getClient_filter (v : View Id E) (P : Id → Bool) (i : Id) :
    (v.filter P).getClient i = if P i then v.getClient i else .error .key := by
  unfold View.getClient View.filter
  rw [lookup_filter]
  cases P i <;> rfl

theorem View.clientSize_filter (size : E → Nat) (v : View Id E) (P : Id → Bool) (i : Id) :
    (v.filter P).clientSize size i = if P i then v.clientSize size i else .error .key := by
  unfold View.clientSize View.filter
  rw [lookup_filter]
  cases P i <;> rfl

theorem View.filter_filter (v : View Id E) (P Q : Id → Bool) :
    (v.filter P).filter Q = v.filter fun i => Q i && P i :=
  congrArg (View.mk · v.cpre v.bpre) (List.filter_filter ..)

theorem View.exceptToOption_getClient (v : View Id E) (i : Id) :
    exceptToOption (v.getClient i) = (lookup i v.content).map (mkDataset v.cpre v.bpre i) := by
  unfold View.getClient
  cases lookup i v.content <;> rfl

theorem View.getClients_of_perm (v : View Id E) (hn : v.ids.Nodup) {req : List Id}
    (hp : req.Perm v.ids) :
    (v.getClients req).1.Perm v.clients ∧ (v.getClients req).2 = false := by
  unfold View.getClients
  rw [getMany_all_some]
  · refine ⟨(hp.filterMap _).trans (.of_eq ?_), rfl⟩
    simp only [View.exceptToOption_getClient, Option.map_map]
    exact filterMap_keys (fun i e => (i, mkDataset v.cpre v.bpre i e)) hn
  · intro i hi
    rw [View.exceptToOption_getClient, Option.isSome_map, lookup_isSome_iff]
    exact hp.mem_iff.mp hi

end

section
variable {Id E : Type} [DecidableEq Id] [LT Id] [DecidableLT Id]

theorem insertId_perm (x : Id) (l : List Id) : (insertId x l).Perm (x :: l) := by
  induction l with
  | nil => exact List.Perm.refl _
  | cons y ys ih =>
    unfold insertId
    split
    · exact List.Perm.refl _
    · exact (ih.cons y).trans (List.Perm.swap x y ys)

theorem sortIds_perm (l : List Id) : (sortIds l).Perm l := by
  induction l with
  | nil => exact List.Perm.refl _
  | cons x xs ih => exact (insertId_perm x _).trans (ih.cons x)

theorem mem_sortIds (i : Id) (l : List Id) : i ∈ sortIds l ↔ i ∈ l := (sortIds_perm l).mem_iff

theorem whereP_eq (s e : Option Id) (x : Id) : whereP s e x = inRange s e x := by
  cases s <;> cases e
  · rfl
  · rfl
  · exact (Bool.and_true _).symm
  · rfl

theorem sliceFilter_eq (s e : Option Id) (ids : List Id) :
    sliceFilter s e ids = ids.filter (inRange s e) := by
  cases s <;> cases e
  · exact (List.filter_eq_self.mpr fun _ _ => rfl).symm
  · rfl
  · exact List.filter_congr fun _ _ => (Bool.and_true _).symm
  · rfl

theorem StrictTotal.lt_of_lt_of_not_lt (ho : StrictTotal Id) {x a b : Id} (h : x < b) (hab : ¬ a < b) :
    x < a := by
  rcases ho.total a b with h' | h' | h'
  · exact absurd h' hab
  · exact h' ▸ h
  · exact ho.trans _ _ _ h h'

theorem pyMax_le_iff (ho : StrictTotal Id) (a b x : Id) :
    (!decide (x < pyMax a b)) = (!decide (x < a) && !decide (x < b)) := by
  rw [Bool.eq_iff_iff]
  simp only [Bool.and_eq_true, Bool.not_eq_true', decide_eq_false_iff_not]
  unfold pyMax
  split
  · next h => exact ⟨fun hx => ⟨fun hxa => hx (ho.trans _ _ _ hxa h), hx⟩, And.right⟩
  · next h => exact ⟨fun hx => ⟨hx, fun hxb => hx (ho.lt_of_lt_of_not_lt hxb h)⟩, And.left⟩

theorem lt_pyMin_iff (ho : StrictTotal Id) (a b x : Id) :
    decide (x < pyMin a b) = (decide (x < a) && decide (x < b)) := by
  rw [Bool.eq_iff_iff]
  simp only [Bool.and_eq_true, decide_eq_true_eq]
  unfold pyMin
  split
  · next h => exact ⟨fun hx => ⟨ho.trans _ _ _ hx h, hx⟩, And.right⟩
  · next h => exact ⟨fun hx => ⟨hx, ho.lt_of_lt_of_not_lt hx h⟩, And.left⟩

def geStart (s : Option Id) (x : Id) : Bool :=
  match s with
  | none => true
  | some s => !decide (x < s)

def ltStop (e : Option Id) (x : Id) : Bool :=
  match e with
  | none => true
  | some e => decide (x < e)

theorem inRange_eq (s e : Option Id) (x : Id) : inRange s e x = (geStart s x && ltStop e x) := rfl

theorem geStart_intersect (ho : StrictTotal Id) (cs ce ns ne : Option Id) (x : Id) :
    geStart (intersect cs ce ns ne).1 x = (geStart cs x && geStart ns x) := by
  cases cs with
  | none => rfl
  | some c =>
    cases ns with
    | none => exact (Bool.and_true _).symm
    | some n => exact pyMax_le_iff ho c n x

theorem ltStop_intersect (ho : StrictTotal Id) (cs ce ns ne : Option Id) (x : Id) :
    ltStop (intersect cs ce ns ne).2 x = (ltStop ce x && ltStop ne x) := by
  cases ce with
  | none => rfl
  | some c =>
    cases ne with
    | none => exact (Bool.and_true _).symm
    | some n => exact lt_pyMin_iff ho c n x

/-- **Range intersection.** A client id lies in the range computed by `intersect_slice_ranges` iff it
lies in both the current and the new range — for all option-bounded half-open ranges (so nested
slicing never enlarges a view, and `start > stop` gives the empty view). -/
theorem C08_intersect (ho : StrictTotal Id) (cs ce ns ne : Option Id) (x : Id) :
    inRange (intersect cs ce ns ne).1 (intersect cs ce ns ne).2 x
      = (inRange cs ce x && inRange ns ne x) := by
  simp only [inRange_eq, geStart_intersect ho, ltStop_intersect ho]
  ac_rfl

/-- the mapping an implementation state denotes; by `rfl`, `abs (.sql q)` is
`View.filter ⟨q.rows, q.cpre, q.bpre⟩ (inRange q.start q.stop)` and `abs (.sub b set)` is
`(abs b).filter (· ∈ set)`: the `View.filter` lemmas apply to it as it stands -/
def abs : FD Id E → View Id E
  | .mem m => ⟨m.tab, m.cpre, m.bpre⟩
  | .sql q => ⟨q.rows.filter fun p => inRange q.start q.stop p.1, q.cpre, q.bpre⟩
  | .sub b set => ⟨(abs b).content.filter fun p => decide (p.1 ∈ set), (abs b).cpre, (abs b).bpre⟩

/-- representation invariant: distinct ids in the stored table (dict keys / PRIMARY KEY); a subset
wrapper holds a duplicate-free set of ids of its base (`validate=True`, preserved by slicing). -/
def Inv : FD Id E → Prop
  | .mem m => (keys m.tab).Nodup
  | .sql q => (keys q.rows).Nodup
  | .sub b set => Inv b ∧ set.Nodup ∧ ∀ i ∈ set, i ∈ (abs b).ids

theorem abs_ids_nodup {fd : FD Id E} (h : Inv fd) : (abs fd).ids.Nodup := by
  induction fd with
  | mem _ => exact h
  | sql q => exact nodup_keys_filter (inRange q.start q.stop) h
  | sub b set ih => exact nodup_keys_filter (fun i => decide (i ∈ set)) (ih h.1)

/-- observational refinement: every access path of the implementation state shows the mapping `v`
(listings up to order; point and bulk lookups exactly, including `KeyError`s and the lazily produced
prefix of `get_clients`).  `size` enters `sizes` and `size1` only: a user of the other fields may pass any
`size` (`Denotes.valid_iff` passes `fun _ => 0`). -/
structure Refines (size : E → Nat) (fd : FD Id E) (v : View Id E) : Prop where
  num : fd.numClients = v.numClients
  ids : fd.clientIds.Perm v.ids
  sizes : (fd.clientSizes size).Perm (v.sizes size)
  size1 : ∀ id, fd.clientSize size id = v.clientSize size id
  clients : fd.clients.1.Perm v.clients ∧ fd.clients.2 = false
  get1 : ∀ id, fd.getClient id = v.getClient id
  getN : ∀ req, fd.getClients req = v.getClients req

theorem refines_mem (size : E → Nat) (m : MemFD Id E) (h : (keys m.tab).Nodup) :
    Refines size (.mem m) ⟨m.tab, m.cpre, m.bpre⟩ := by
  have hids : m.ids.Perm (keys m.tab) := sortIds_perm _
  have hget (i : Id) : m.dataset? i = exceptToOption ((View.mk m.tab m.cpre m.bpre).getClient i) :=
    (View.exceptToOption_getClient ⟨m.tab, m.cpre, m.bpre⟩ i).symm
  exact {
    num := hids.length_eq.trans (List.length_map _)
    ids := (sortIds_perm _).trans hids
    sizes := (hids.filterMap _).trans (.of_eq (filterMap_keys (fun i raw => (i, size raw)) h))
    size1 := fun _ => rfl
    clients := by
      rw [show (FD.mem m).clients = getMany m.dataset? m.ids from rfl, getMany_congr fun i _ => hget i]
      exact View.getClients_of_perm ⟨m.tab, m.cpre, m.bpre⟩ h hids
    get1 := fun id => by
      unfold FD.getClient MemFD.dataset? View.getClient
      cases lookup id m.tab <;> rfl
    getN := fun req => getMany_congr fun i _ => hget i }

theorem refines_sql (size : E → Nat) (q : SqlFD Id E) : Refines size (.sql q) (abs (.sql q)) := by
  have hsel : q.selected = (abs (.sql q)).content := List.filter_congr fun p _ => whereP_eq ..
  have hget (id : Id) : q.getClient id = (abs (.sql q)).getClient id :=
    (View.getClient_filter ⟨q.rows, q.cpre, q.bpre⟩ _ id).symm
  exact {
    num := congrArg List.length hsel
    ids := .of_eq (congrArg (List.map _) hsel)
    sizes := .of_eq (congrArg (List.map _) hsel)
    size1 := fun id => (View.clientSize_filter size ⟨q.rows, q.cpre, q.bpre⟩ _ id).symm
    clients := ⟨.of_eq (congrArg (List.map _) hsel), rfl⟩
    get1 := hget
    getN := fun req => getMany_congr fun i _ => congrArg exceptToOption (hget i) }

theorem refines_sub {size : E → Nat} {b : FD Id E} {v : View Id E} {set : List Id}
    (hb : Refines size b v) (hn : v.ids.Nodup) (hnd : set.Nodup) (hsub : ∀ i ∈ set, i ∈ v.ids) :
    Refines size (.sub b set) (v.filter fun i => decide (i ∈ set)) := by
  have hset : set.Perm (v.filter fun i => decide (i ∈ set)).ids := by
    rw [List.perm_ext_iff_of_nodup hnd (View.nodup_filter hn _)]
    intro a
    simp only [View.ids_filter, List.mem_filter, decide_eq_true_eq]
    exact ⟨fun h => ⟨hsub a h, h⟩, And.right⟩
  have hgetN (req : List Id) : (FD.sub b set).getClients req
      = (v.filter fun i => decide (i ∈ set)).getClients req := by
    show subFilter set (b.getClients req).1 (b.getClients req).2 = _
    simp only [hb.getN, View.getClients, subFilter_getMany]
    refine getMany_congr fun i _ => ?_
    simp only [View.getClient_filter, apply_ite exceptToOption, decide_eq_true_eq]
    rfl
  exact {
    num := hset.length_eq.trans (List.length_map _)
    ids := (sortIds_perm _).trans hset
    sizes := (hb.sizes.filter _).trans (.of_eq List.filter_map)
    size1 := fun id => by
      simp only [View.clientSize_filter, ← hb.size1, decide_eq_true_eq]
      rfl
    clients := by
      rw [show (FD.sub b set).clients = _ from hgetN (sortIds set)]
      exact View.getClients_of_perm _ (View.nodup_filter hn _) ((sortIds_perm _).trans hset)
    get1 := fun id => by
      simp only [View.getClient_filter, ← hb.get1, decide_eq_true_eq]
      rfl
    getN := hgetN }

theorem refines_abs (size : E → Nat) {fd : FD Id E} (h : Inv fd) : Refines size fd (abs fd) := by
  induction fd with
  | mem m => exact refines_mem size m h
  | sql q => exact refines_sql size q
  | sub b _ ih => exact refines_sub (ih h.1) (abs_ids_nodup h.1) h.2.1 h.2.2

end

section
variable {Id E : Type} [DecidableEq Id] [LT Id] [DecidableLT Id]

/-- views up to the order of their content -/
structure ViewEq (v w : View Id E) : Prop where
  content : v.content.Perm w.content
  cpre : v.cpre = w.cpre
  bpre : v.bpre = w.bpre

theorem ViewEq.refl (v : View Id E) : ViewEq v v := ⟨List.Perm.refl _, rfl, rfl⟩
theorem ViewEq.symm {v w : View Id E} (h : ViewEq v w) : ViewEq w v :=
  ⟨h.content.symm, h.cpre.symm, h.bpre.symm⟩
theorem ViewEq.trans {u v w : View Id E} (h : ViewEq u v) (h' : ViewEq v w) : ViewEq u w :=
  ⟨h.content.trans h'.content, h.cpre.trans h'.cpre, h.bpre.trans h'.bpre⟩

theorem ViewEq.of_eq {v w : View Id E} (h : v = w) : ViewEq v w := h ▸ .refl v

theorem ViewEq.ids_perm {v w : View Id E} (h : ViewEq v w) : v.ids.Perm w.ids := h.content.map _

theorem ViewEq.ids_nodup {v w : View Id E} (h : ViewEq v w) (hn : v.ids.Nodup) : w.ids.Nodup :=
  h.ids_perm.nodup_iff.mp hn

theorem ViewEq.getClient {v w : View Id E} (h : ViewEq v w) (hn : v.ids.Nodup) (i : Id) :
    v.getClient i = w.getClient i := by
  unfold View.getClient
  rw [lookup_perm hn h.content, h.cpre, h.bpre]

theorem ViewEq.clientSize {v w : View Id E} (size : E → Nat) (h : ViewEq v w) (hn : v.ids.Nodup)
    (i : Id) : v.clientSize size i = w.clientSize size i := by
  unfold View.clientSize
  rw [lookup_perm hn h.content]

theorem ViewEq.clients {v w : View Id E} (h : ViewEq v w) : v.clients.Perm w.clients := by
  unfold View.clients
  rw [h.cpre, h.bpre]
  exact h.content.map _

theorem ViewEq.filter {v w : View Id E} (h : ViewEq v w) (P : Id → Bool) :
    ViewEq (v.filter P) (w.filter P) :=
  ⟨h.content.filter _, h.cpre, h.bpre⟩

/-- `fd` is a well-formed state and `v` is, up to the order of its entries, the mapping it denotes -/
def Denotes (fd : FD Id E) (v : View Id E) : Prop := Inv fd ∧ ViewEq (abs fd) v

theorem Denotes.refines (size : E → Nat) {fd : FD Id E} {v : View Id E} (h : Denotes fd v) :
    Refines size fd v :=
  have hr := refines_abs size h.1
  have hn := abs_ids_nodup h.1
  { num := hr.num.trans h.2.content.length_eq
    ids := hr.ids.trans h.2.ids_perm
    sizes := hr.sizes.trans (h.2.content.map _)
    size1 := fun id => (hr.size1 id).trans (h.2.clientSize size hn id)
    clients := ⟨hr.clients.1.trans h.2.clients, hr.clients.2⟩
    get1 := fun id => (hr.get1 id).trans (h.2.getClient hn id)
    getN := fun req => (hr.getN req).trans (getMany_congr fun i _ => by rw [h.2.getClient hn i]) }

theorem Denotes.trans {fd : FD Id E} {v w : View Id E} (h : Denotes fd v) (h' : ViewEq v w) :
    Denotes fd w :=
  ⟨h.1, h.2.trans h'⟩

theorem Denotes.sub {b : FD Id E} {v : View Id E} {set : List Id} (h : Denotes b v) (hnd : set.Nodup)
    (hsub : ∀ i ∈ set, i ∈ v.ids) : Denotes (.sub b set) (v.filter fun i => decide (i ∈ set)) :=
  ⟨⟨h.1, hnd, fun i hi => h.2.ids_perm.mem_iff.mpr (hsub i hi)⟩, h.2.filter fun i => decide (i ∈ set)⟩

def RelE {α β : Type} (R : α → β → Prop) : Except Err α → Except Err β → Prop
  | .ok a, .ok b => R a b
  | .error e, .error e' => e = e'
  | _, _ => False

@[elab_as_elim]
theorem RelE.cases_on {α β : Type} {R : α → β → Prop} {motive : Except Err α → Except Err β → Prop}
    {x : Except Err α} {y : Except Err β} (h : RelE R x y)
    (ok : ∀ a b, R a b → motive (.ok a) (.ok b)) (error : ∀ e, motive (.error e) (.error e)) :
    motive x y := by
  cases x with
  | ok a =>
    cases y with
    | ok b => exact ok a b h
    | error => exact h.elim
  | error e =>
    cases y with
    | ok => exact h.elim
    | error => exact h ▸ error e

/-- two results related to a common third are related to each other -/
theorem RelE.join {α β γ : Type} {R : α → γ → Prop} {S : β → γ → Prop} {T : α → β → Prop}
    {x : Except Err α} {y : Except Err β} {z : Except Err γ} (hx : RelE R x z) (hy : RelE S y z)
    (h : ∀ a b c, R a c → S b c → T a b) : RelE T x y := by
  cases z with
  | ok c =>
    cases x with
    | error => exact hx.elim
    | ok a =>
      cases y with
      | error => exact hy.elim
      | ok b => exact h a b c hx hy
  | error =>
    cases x with
    | ok => exact hx.elim
    | error =>
      cases y with
      | ok => exact hy.elim
      | error => exact hx.trans hy.symm

theorem RelE.ok_left {α β : Type} {R : α → β → Prop} {a : α} {y : Except Err β}
    (h : RelE R (.ok a) y) : ∃ b, y = .ok b ∧ R a b := by
  cases y with
  | ok b => exact ⟨b, rfl, h⟩
  | error e => exact h.elim

/-- the condition an operation puts on a client id -/
def Op.admits : Op Id E → Id → Prop
  | .slice s e, i => inRange s e i = true
  | .subset S, i => i ∈ S
  | .preClient _, _ => True
  | .preBatch _, _ => True

def Op.clientFn? : Op Id E → Option (Id → E → E)
  | .preClient f => some f
  | _ => none

def Op.batchFn? : Op Id E → Option (E → E)
  | .preBatch g => some g
  | _ => none

/-- the client ids an operation lets through (`Op.admits` as a test) -/
def Op.keeps : Op Id E → Id → Bool
  | .slice s e, i => inRange s e i
  | .subset S, i => decide (i ∈ S)
  | _, _ => true

theorem Op.keeps_iff (op : Op Id E) (i : Id) : op.keeps i = true ↔ op.admits i := by
  cases op with
  | slice => exact Iff.rfl
  | subset => exact decide_eq_true_iff
  | _ => exact iff_true_intro rfl

/-- an operation on a view that succeeds: a filter on the ids, an append to the chains -/
theorem View.apply_ok {v v' : View Id E} {op : Op Id E} (h : v.apply op = .ok v') :
    v' = ⟨v.content.filter fun p => op.keeps p.1, v.cpre ++ op.clientFn?.toList,
          v.bpre ++ op.batchFn?.toList⟩ := by
  cases op with
  | subset ids =>
    simp only [View.apply] at h
    split at h
    · cases h
      simp only [Op.keeps, Op.clientFn?, Op.batchFn?, Option.toList, List.append_nil]
    · cases h
  | _ =>
    cases h
    simp only [Op.keeps, Op.clientFn?, Op.batchFn?, Option.toList, List.append_nil, List.filter_true]

theorem view_apply_nodup {v v' : View Id E} (hn : v.ids.Nodup) (op : Op Id E)
    (h : v.apply op = .ok v') : v'.ids.Nodup := by
  rw [View.apply_ok h]
  exact nodup_keys_filter op.keeps hn

theorem denotes_preClient (f : Id → E → E) {fd : FD Id E} (h : Inv fd) :
    Denotes (fd.preClient f) { abs fd with cpre := (abs fd).cpre ++ [f] } := by
  induction fd with
  | mem _ => exact ⟨h, .refl _⟩
  | sql _ => exact ⟨h, .refl _⟩
  | sub b set ih => exact (ih h.1).sub h.2.1 h.2.2

theorem denotes_preBatch (g : E → E) {fd : FD Id E} (h : Inv fd) :
    Denotes (fd.preBatch g) { abs fd with bpre := (abs fd).bpre ++ [g] } := by
  induction fd with
  | mem _ => exact ⟨h, .refl _⟩
  | sql _ => exact ⟨h, .refl _⟩
  | sub b set ih => exact (ih h.1).sub h.2.1 h.2.2

theorem denotes_slice (ho : StrictTotal Id) (s e : Option Id) {fd : FD Id E} (h : Inv fd) :
    Denotes (fd.slice s e) ((abs fd).filter (inRange s e)) := by
  induction fd with
  | mem m =>
    -- the slice rebuilds the dict from the *sorted* ids that pass: the same entries as `tab.filter`, reordered
    have hperm : ((sliceFilter s e m.ids).filterMap m.entry).Perm
        (m.tab.filter fun p => inRange s e p.1) := by
      rw [sliceFilter_eq]
      refine (((sortIds_perm (keys m.tab)).filter _).filterMap _).trans (.of_eq ?_)
      exact (filterMap_keys_filter (fun i (x : E) => (i, x)) (inRange s e) h).trans (List.map_id _)
    exact ⟨(keys_perm hperm).nodup_iff.mpr (nodup_keys_filter (inRange s e) h), hperm, rfl, rfl⟩
  | sql q =>
    refine ⟨h, .of_eq ?_, rfl, rfl⟩
    show q.rows.filter _ = (q.rows.filter _).filter _
    rw [List.filter_filter]
    exact List.filter_congr fun p _ => (C08_intersect ho ..).trans (Bool.and_comm ..)
  | sub b set ih =>
    show Denotes (.sub (b.slice s e) (sliceFilter s e set))
      (((abs b).filter fun i => decide (i ∈ set)).filter (inRange s e))
    simp only [sliceFilter_eq, View.filter_filter]
    refine ((ih h.1).sub (h.2.1.filter _) fun i hi => ?_).trans (.of_eq ?_)
    · rw [View.ids_filter]
      exact List.mem_filter.mpr ((List.mem_filter.mp hi).imp_left (h.2.2 i))
    · rw [View.filter_filter]
      refine congrArg (View.filter _) (funext fun i => ?_)
      cases h : inRange s e i <;> simp [List.mem_filter, h]

theorem all_mem_iff {S ids : List Id} :
    (S.all fun i => decide (i ∈ ids)) = true ↔ ∀ i ∈ S, i ∈ ids := by
  simp only [List.all_eq_true, decide_eq_true_eq]

/-- `validate=True` on a state asks what `View.apply` asks on the view it denotes -/
theorem Denotes.valid_iff {fd : FD Id E} {v : View Id E} (h : Denotes fd v) (ids : List Id) :
    ((dedupIds ids).all fun i => decide (i ∈ fd.clientIds)) = true ↔ ∀ i ∈ ids, i ∈ v.ids := by
  simp only [all_mem_iff, mem_dedupIds, (h.refines fun _ => 0).ids.mem_iff]

theorem Denotes.apply (ho : StrictTotal Id) {fd : FD Id E} {v : View Id E} (h : Denotes fd v)
    (op : Op Id E) : RelE Denotes (fd.apply op) (v.apply op) := by
  cases op with
  | slice s e => exact (denotes_slice ho s e h.1).trans (h.2.filter _)
  | preClient f =>
    exact (denotes_preClient f h.1).trans ⟨h.2.content, congrArg (· ++ [f]) h.2.cpre, h.2.bpre⟩
  | preBatch g =>
    exact (denotes_preBatch g h.1).trans ⟨h.2.content, h.2.cpre, congrArg (· ++ [g]) h.2.bpre⟩
  | subset ids =>
    simp only [FD.apply, FD.subset, View.apply]
    rw [Bool.eq_iff_iff.mpr ((h.valid_iff ids).trans all_mem_iff.symm)]
    split
    · next hall =>
      refine (h.sub (nodup_dedupIds ids) fun i hi => all_mem_iff.mp hall i (mem_dedupIds.mp hi)).trans ?_
      exact ⟨.of_eq (List.filter_congr fun _ _ => decide_eq_decide.mpr mem_dedupIds), rfl, rfl⟩
    · rfl

theorem Denotes.applyAll (ho : StrictTotal Id) {fd : FD Id E} {v : View Id E} (h : Denotes fd v)
    (ops : List (Op Id E)) : RelE Denotes (fd.applyAll ops) (v.applyAll ops) := by
  induction ops generalizing fd v with
  | nil => exact h
  | cons op ops ih =>
    simp only [FD.applyAll, View.applyAll]
    exact (h.apply ho op).cases_on (fun _ _ h' => ih h') fun _ => rfl

end

section
variable {Id E : Type} [DecidableEq Id] [LT Id] [DecidableLT Id]

/-- a fresh `InMemoryFederatedData(table)` -/
def memRoot (tab : List (Id × E)) : FD Id E := .mem ⟨tab, [], []⟩
/-- a fresh `SQLiteFederatedData` over the rows `tab` (in insertion order) -/
def sqlRoot (tab : List (Id × E)) : FD Id E := .sql ⟨tab, none, none, [], []⟩
/-- the logical dataset `{client id ↦ examples}` -/
def View.root (tab : List (Id × E)) : View Id E := ⟨tab, [], []⟩

theorem abs_sqlRoot (tab : List (Id × E)) : abs (sqlRoot tab) = View.root tab :=
  congrArg (View.mk · [] []) (List.filter_eq_self.mpr fun _ _ => rfl)

theorem denotes_sqlRoot {tab tab' : List (Id × E)} (hn : (keys tab).Nodup) (hp : tab.Perm tab') :
    Denotes (sqlRoot tab') (View.root tab) :=
  ⟨(keys_perm hp).nodup_iff.mp hn, abs_sqlRoot tab' ▸ ⟨hp.symm, rfl, rfl⟩⟩

/-- **Refinement, any implementation state, any history.** From a state satisfying the
representation invariant, every finite sequence of slice / subset / preprocess operations either fails
in the implementation and in the specification with the same exception, or produces a state whose
every observation (count, id listing, sizes, single and bulk lookups with their `KeyError`s,
iteration) is the one of the specified mapping. -/
theorem C08_refine (ho : StrictTotal Id) (size : E → Nat) (fd : FD Id E) (h : Inv fd)
    (ops : List (Op Id E)) :
    RelE (Refines size) (fd.applyAll ops) ((abs fd).applyAll ops) :=
  (Denotes.applyAll ho ⟨h, .refl _⟩ ops).cases_on (fun _ _ => Denotes.refines size) fun _ => rfl

/-- the in-memory implementation refines the logical dataset under every history -/
theorem C08_refine_mem (ho : StrictTotal Id) (size : E → Nat) (tab : List (Id × E))
    (hn : (keys tab).Nodup) (ops : List (Op Id E)) :
    RelE (Refines size) ((memRoot tab).applyAll ops) ((View.root tab).applyAll ops) :=
  C08_refine ho size (memRoot tab) hn ops

/-- the SQLite implementation refines the logical dataset under every history -/
theorem C08_refine_sql (ho : StrictTotal Id) (size : E → Nat) (tab : List (Id × E))
    (hn : (keys tab).Nodup) (ops : List (Op Id E)) :
    RelE (Refines size) ((sqlRoot tab).applyAll ops) ((View.root tab).applyAll ops) :=
  abs_sqlRoot tab ▸ C08_refine ho size (sqlRoot tab) hn ops

/-- a subset wrapper over *any* base state (in-memory, SQLite, another wrapper, with any pending
range and preprocessors) refines "the base's mapping restricted to the set" under every history;
constructing it fails with `ValueError` exactly when some id is not in the base. -/
theorem C08_refine_sub (ho : StrictTotal Id) (size : E → Nat) (base : FD Id E) (hb : Inv base)
    (sel : List Id) (ops : List (Op Id E)) :
    RelE (Refines size) (base.applyAll (.subset sel :: ops)) ((abs base).applyAll (.subset sel :: ops)) ∧
    ((∀ i ∈ sel, i ∈ (abs base).ids) →
      (abs base).apply (.subset sel) =
        .ok { abs base with content := (abs base).content.filter fun p => decide (p.1 ∈ sel) }) ∧
    ((¬ ∀ i ∈ sel, i ∈ (abs base).ids) → base.apply (.subset sel) = .error .value) :=
  ⟨C08_refine ho size base hb _, fun hall => if_pos (all_mem_iff.mpr hall),
    fun hnot => if_neg (mt (Denotes.valid_iff ⟨hb, .refl _⟩ sel).mp hnot)⟩

/-- `Refines` with the view eliminated: two states show the same on every access path -/
structure ObsEq (size : E → Nat) (a b : FD Id E) : Prop where
  num : a.numClients = b.numClients
  ids : a.clientIds.Perm b.clientIds
  sizes : (a.clientSizes size).Perm (b.clientSizes size)
  size1 : ∀ id, a.clientSize size id = b.clientSize size id
  clients : a.clients.1.Perm b.clients.1 ∧ a.clients.2 = false ∧ b.clients.2 = false
  get1 : ∀ id, a.getClient id = b.getClient id
  getN : ∀ req, a.getClients req = b.getClients req

theorem obsEq_of_refines {size : E → Nat} {a b : FD Id E} {v : View Id E}
    (ha : Refines size a v) (hb : Refines size b v) : ObsEq size a b where
  num := ha.num.trans hb.num.symm
  ids := ha.ids.trans hb.ids.symm
  sizes := ha.sizes.trans hb.sizes.symm
  size1 := fun id => (ha.size1 id).trans (hb.size1 id).symm
  clients := ⟨ha.clients.1.trans hb.clients.1.symm, ha.clients.2, hb.clients.2⟩
  get1 := fun id => (ha.get1 id).trans (hb.get1 id).symm
  getN := fun req => (ha.getN req).trans (hb.getN req).symm

theorem Denotes.obsEq (ho : StrictTotal Id) (size : E → Nat) {fd₁ fd₂ : FD Id E} {v : View Id E}
    (h₁ : Denotes fd₁ v) (h₂ : Denotes fd₂ v) (ops : List (Op Id E)) :
    RelE (ObsEq size) (fd₁.applyAll ops) (fd₂.applyAll ops) :=
  (h₁.applyAll ho ops).join (h₂.applyAll ho ops) fun _ _ _ h h' =>
    obsEq_of_refines (h.refines size) (h'.refines size)

/-- **All implementations agree.** Two implementation states of *any* kind (in-memory, SQLite,
subset-wrapped, already sliced / preprocessed) that denote the same mapping keep agreeing on every
observation after every common finite history of slices, subsets of slices, slices of subsets and
preprocessor appends — and a history fails in one iff it fails in the other, with the same exception. -/
theorem C08_all_equal (ho : StrictTotal Id) (size : E → Nat) (fd₁ fd₂ : FD Id E)
    (h₁ : Inv fd₁) (h₂ : Inv fd₂) (heq : ViewEq (abs fd₁) (abs fd₂)) (ops : List (Op Id E)) :
    RelE (ObsEq size) (fd₁.applyAll ops) (fd₂.applyAll ops) :=
  Denotes.obsEq ho size ⟨h₁, .refl _⟩ ⟨h₂, heq.symm⟩ ops

/-- The three packaged forms of one logical dataset — in-memory over `tab`, SQLite over the same
rows inserted in any order `tab'`, and subset wrappers (over in-memory or SQLite) of a larger table
`big` restricted to the ids of `tab` — are observationally equal after every history. -/
theorem C08_all_equal_roots (ho : StrictTotal Id) (size : E → Nat) (tab tab' big big' : List (Id × E))
    (sel : List Id) (hn : (keys tab).Nodup) (hp : tab.Perm tab')
    (hbig : (keys big).Nodup) (hbp : big.Perm big') (hsel : sel.Nodup) (hsub : ∀ i ∈ sel, i ∈ keys big)
    (hrestr : (big.filter fun p => decide (p.1 ∈ sel)).Perm tab) (ops : List (Op Id E)) :
    RelE (ObsEq size) ((memRoot tab).applyAll ops) ((sqlRoot tab').applyAll ops) ∧
    RelE (ObsEq size) ((memRoot tab).applyAll ops) ((FD.sub (memRoot big) sel).applyAll ops) ∧
    RelE (ObsEq size) ((memRoot tab).applyAll ops) ((FD.sub (sqlRoot big') sel).applyAll ops) := by
  have d1 : Denotes (memRoot tab) (View.root tab) := ⟨hn, .refl _⟩
  have d3 : Denotes (FD.sub (memRoot big) sel) (View.root tab) := ⟨⟨hbig, hsel, hsub⟩, hrestr, rfl, rfl⟩
  have d4 : Denotes (FD.sub (sqlRoot big') sel) (View.root tab) :=
    ((denotes_sqlRoot hbig hbp).sub hsel hsub).trans ⟨hrestr, rfl, rfl⟩
  exact ⟨d1.obsEq ho size (denotes_sqlRoot hn hp) ops, d1.obsEq ho size d3 ops, d1.obsEq ho size d4 ops⟩

/-- a whole history on the specification in closed form: one filter by all the `keeps`, the registered
functions appended in order -/
theorem View.applyAll_ok {ops : List (Op Id E)} {v v' : View Id E} (h : v.applyAll ops = .ok v') :
    v' = (View.mk v.content (v.cpre ++ ops.filterMap Op.clientFn?)
      (v.bpre ++ ops.filterMap Op.batchFn?)).filter fun i => ops.all fun op => op.keeps i := by
  induction ops generalizing v with
  | nil =>
    cases h
    simp [View.filter]
  | cons op ops ih =>
    simp only [View.applyAll] at h
    split at h
    · next v1 h1 =>
      rw [ih h, View.apply_ok h1]
      simp only [View.filter, List.filter_filter, List.all_cons, Bool.and_comm, List.append_assoc,
        List.filterMap_eq_flatMap_toList, List.flatMap_cons]
    · cases h

/-- **Exact ids and lookups.** After any history `ops` from any implementation state `fd₀`, the ids of
the resulting view are exactly the ids of `fd₀`'s mapping that lie inside every requested range and every
requested subset (possibly none); a lookup (single get, size) of any other id raises `KeyError`; a
lookup of an id of the view returns the stored entry of the original mapping, preprocessed. -/
theorem C08_ids_exact (ho : StrictTotal Id) (size : E → Nat) (fd₀ fd : FD Id E) (h₀ : Inv fd₀)
    (ops : List (Op Id E)) (h : fd₀.applyAll ops = .ok fd) :
    (∀ i, i ∈ fd.clientIds ↔ i ∈ (abs fd₀).ids ∧ ∀ op ∈ ops, op.admits i) ∧
    (∀ i, i ∉ fd.clientIds → fd.getClient i = .error .key ∧ fd.clientSize size i = .error .key) ∧
    (∀ i, i ∈ fd.clientIds → ∃ raw, lookup i (abs fd₀).content = some raw ∧
      fd.clientSize size i = .ok (size raw) ∧
      fd.getClient i = .ok (mkDataset ((abs fd₀).cpre ++ ops.filterMap Op.clientFn?)
                                      ((abs fd₀).bpre ++ ops.filterMap Op.batchFn?) i raw)) := by
  have hr := C08_refine ho size fd₀ h₀ ops
  rw [h] at hr
  obtain ⟨v, hv, hr⟩ := hr.ok_left
  obtain rfl := View.applyAll_ok hv
  refine ⟨fun i => ?_, fun i hi => ?_, fun i hi => ?_⟩
  · simp only [hr.ids.mem_iff, View.ids_filter, List.mem_filter, List.all_eq_true, Op.keeps_iff]
    rfl
  · have : lookup i (View.filter _ _).content = none :=
      lookup_eq_none_iff.mpr fun hm => hi (hr.ids.mem_iff.mpr hm)
    simp only [hr.get1, hr.size1, View.getClient, View.clientSize, this, and_self]
  · have hi' := hr.ids.mem_iff.mp hi
    rw [View.ids_filter, List.mem_filter] at hi'
    obtain ⟨raw, hraw⟩ := Option.isSome_iff_exists.mp (lookup_isSome_iff.mpr hi'.1)
    refine ⟨raw, hraw, ?_, ?_⟩
    · rw [hr.size1, View.clientSize_filter, if_pos hi'.2, View.clientSize, hraw]
    · rw [hr.get1, View.getClient_filter, if_pos hi'.2, View.getClient, hraw]

/-- **Preprocessor order.** The examples a batch of a client dataset shows are the stored examples
passed first through all client-level functions in registration order, then through all batch-level
functions in registration order (wherever in the history slices and subsets were interleaved);
appending a function means it runs last, on the output of the earlier ones. -/
theorem C08_pre_order (ho : StrictTotal Id) (size : E → Nat) (tab : List (Id × E))
    (hn : (keys tab).Nodup) (root : FD Id E) (hroot : root = memRoot tab ∨ root = sqlRoot tab)
    (fd : FD Id E) (ops : List (Op Id E)) (h : root.applyAll ops = .ok fd) (i : Id)
    (hi : i ∈ fd.clientIds) :
    (∃ raw d, lookup i tab = some raw ∧ fd.getClient i = .ok d ∧
      d.allExamples = applyBatch (ops.filterMap Op.batchFn?) (applyClient (ops.filterMap Op.clientFn?) i raw)) ∧
    (∀ (fs : List (Id → E → E)) f (e : E), applyClient (fs ++ [f]) i e = f i (applyClient fs i e)) ∧
    (∀ (gs : List (E → E)) g (e : E), applyBatch (gs ++ [g]) e = g (applyBatch gs e)) := by
  refine ⟨?_, fun fs f e => List.foldl_append, fun gs g e => List.foldl_append⟩
  obtain ⟨hinv, habs⟩ : Inv root ∧ abs root = View.root tab := by
    rcases hroot with rfl | rfl
    · exact ⟨hn, rfl⟩
    · exact ⟨hn, abs_sqlRoot tab⟩
  obtain ⟨_, _, h3⟩ := C08_ids_exact ho size root fd hinv ops h
  obtain ⟨raw, hraw, _, hget⟩ := h3 i hi
  rw [habs] at hraw hget
  exact ⟨raw, _, hraw, hget, rfl⟩

theorem applyAll_pre (mk : List (Id → E → E) → List (E → E) → FD Id E)
    (hc : ∀ c b f, (mk c b).preClient f = mk (c ++ [f]) b)
    (hb : ∀ c b g, (mk c b).preBatch g = mk c (b ++ [g]))
    (ops : List (Op Id E)) (cs c0 : List (Id → E → E)) (bs b0 : List (E → E)) :
    (mk c0 b0).applyAll (cs.map Op.preClient ++ bs.map Op.preBatch ++ ops)
      = (mk (c0 ++ cs) (b0 ++ bs)).applyAll ops := by
  induction cs generalizing c0 with
  | nil =>
    induction bs generalizing b0 with
    | nil =>
      rw [List.append_nil, List.append_nil]
      rfl
    | cons g bs ih =>
      rw [List.append_cons b0 g bs, ← ih, ← hb]
      rfl
  | cons f cs ih =>
    rw [List.append_cons c0 f cs, ← ih, ← hc]
    rfl

/-- **Constructor-level chains.** A dataset *constructed* with a client-level chain `cs` and a batch-level
chain `bs` is the fresh dataset on which the functions of `cs`, then of `bs`, were registered one by one.
Hence (with `C08_pre_order`, `C08_refine`, `C08_all_equal`) the constructor's functions run first, in their
order, and every function registered later through `preprocess_client` / `preprocess_batch` runs after them,
in every implementation and on every access path. -/
theorem C08_constructor_chain (tab : List (Id × E)) (cs : List (Id → E → E)) (bs : List (E → E))
    (ops : List (Op Id E)) :
    (memRoot tab).applyAll (cs.map Op.preClient ++ bs.map Op.preBatch ++ ops)
      = (FD.mem ⟨tab, cs, bs⟩).applyAll ops ∧
    (sqlRoot tab).applyAll (cs.map Op.preClient ++ bs.map Op.preBatch ++ ops)
      = (FD.sql ⟨tab, none, none, cs, bs⟩).applyAll ops :=
  ⟨applyAll_pre (fun c b => .mem ⟨tab, c, b⟩) (fun _ _ _ => rfl) (fun _ _ _ => rfl) ops cs [] bs [],
    applyAll_pre (fun c b => .sql ⟨tab, none, none, c, b⟩) (fun _ _ _ => rfl) (fun _ _ _ => rfl)
      ops cs [] bs []⟩

/-- the shared store an implementation state reads from (dict / SQLite table) -/
def FD.store : FD Id E → List (Id × E)
  | .mem m => m.tab
  | .sql q => q.rows
  | .sub b _ => b.store

def FD.sqlBacked : FD Id E → Prop
  | .mem _ => False
  | .sql _ => True
  | .sub b _ => b.sqlBacked

/-- **Deriving a view never changes its parent.** View operations are functions of the parent state
(the parent value is not consumed or altered); moreover no operation ever writes to the shared store:
preprocessor appends and subsets keep the store of every state, and on SQLite-backed states (where
parent and child share one table) so does slicing. -/
theorem C08_parent_unchanged (fd fd' : FD Id E) (op : Op Id E) (h : fd.apply op = .ok fd') :
    (fd.sqlBacked → fd'.store = fd.store ∧ fd'.sqlBacked) ∧
    ((∀ s e, op ≠ .slice s e) → fd'.store = fd.store) := by
  -- a wrapper has the store of its base, is SQLite-backed when the base is, and hands every operation
  -- but `subset` down to it: the `sub` cases are the induction hypothesis
  cases op with
  | slice s e =>
    cases h
    induction fd with
    | mem _ => exact ⟨False.elim, fun hne => absurd rfl (hne s e)⟩
    | sql _ => exact ⟨fun _ => ⟨rfl, trivial⟩, fun hne => absurd rfl (hne s e)⟩
    | sub _ _ ih => exact ih
  | subset ids =>
    simp only [FD.apply, FD.subset] at h
    split at h
    · cases h
      exact ⟨fun hs => ⟨rfl, hs⟩, fun _ => rfl⟩
    · cases h
  | preClient _ | preBatch _ =>
    cases h
    induction fd with
    | mem _ => exact ⟨False.elim, fun _ => rfl⟩
    | sql _ => exact ⟨fun _ => ⟨rfl, trivial⟩, fun _ => rfl⟩
    | sub _ _ ih => exact ih

end

section
variable {α : Type}

theorem bshufLoop_perm (B : Nat) (buf : List α) (swaps : List Nat) (rest : List α) :
    (bshufLoop B buf swaps rest).Perm (buf ++ rest) := by
  induction rest generalizing buf swaps with
  | nil => simp [bshufLoop]
  | cons i rest ih =>
    simp only [bshufLoop]
    refine ((ih _ _).cons _).trans ?_
    rw [← List.cons_append]
    exact ((swapStep_perm B buf (swaps.headD 0) i).append_right rest).trans
      (List.perm_middle.symm)

theorem bufferedShuffle_perm (B : Nat) {initPerm : List α → List α} (hperm : ∀ l, (initPerm l).Perm l)
    (swaps : List Nat) (src : List α) : (bufferedShuffle B initPerm swaps src).Perm src := by
  unfold bufferedShuffle
  refine (bshufLoop_perm ..).trans ?_
  refine ((hperm _).append_right _).trans ?_
  rw [List.take_append_drop]

end

/-- **Shuffled pass.** One pass of `shuffled_clients(B, seed)` of any reachable implementation state
visits every client of the view exactly once (same ids, same datasets as `clients()`), for every
buffer size and every outcome of the random draws. -/
theorem C08_shuffled_pass {Id E : Type} [DecidableEq Id] [LT Id] [DecidableLT Id]
    (size : E → Nat) (fd : FD Id E) (h : Inv fd) (B : Nat)
    (initPerm : List (Id × CDS E) → List (Id × CDS E)) (hperm : ∀ l, (initPerm l).Perm l)
    (swaps : List Nat) :
    (fd.shuffledPass B initPerm swaps).Perm fd.clients.1 ∧
    (fd.shuffledPass B initPerm swaps).Perm (abs fd).clients ∧
    ((fd.shuffledPass B initPerm swaps).map (·.1)).Perm (abs fd).ids ∧
    ((fd.shuffledPass B initPerm swaps).map (·.1)).Nodup := by
  have h1 : (fd.shuffledPass B initPerm swaps).Perm fd.clients.1 := bufferedShuffle_perm B hperm swaps _
  have h2 := h1.trans (refines_abs size h).clients.1
  have h3 : ((fd.shuffledPass B initPerm swaps).map (·.1)).Perm (abs fd).ids :=
    (h2.map _).trans (.of_eq List.map_map)
  exact ⟨h1, h2, h3, h3.nodup_iff.mpr (abs_ids_nodup h)⟩

/-! `Model/FedData.lean` (C08) and `Model/Centralised.lean` (C15) each contain a model of
`client_datasets.buffered_shuffle`; by the theorem below, `C15_bshuffle_perm` and `C08_shuffled_pass` speak
about the same function. -/

theorem bshufLoop_models_agree {α} (B : Nat) {buf : List α} (swaps : List Nat) (rest : List α)
    (hne : buf ≠ []) : bshufLoop B buf swaps rest = Centralised.bshufLoop B buf rest swaps := by
  induction rest generalizing buf swaps with
  | nil => rfl
  | cons i rest ih =>
    cases buf with
    | nil => exact absurd rfl hne
    | cons r tl =>
      simp only [bshufLoop, Centralised.bshufLoop]
      rw [swapStep_eq_swap0, ih _ (Centralised.swap0_ite_ne_nil _ (List.cons_ne_nil i tl) _)]

/-- **Model reconciliation.** The C08 and the C15 model of `buffered_shuffle` are the same function on
every input on which the real code does not raise (non-empty initial buffer or empty remainder). -/
theorem C08_bshuffle_models_agree {α} (B : Nat) (shuf : List α → List α) (swaps : List Nat)
    (src : List α) (h : shuf (src.take B) ≠ [] ∨ src.drop B = []) :
    bufferedShuffle B shuf swaps src = Centralised.bufferedShuffle B shuf swaps src := by
  unfold bufferedShuffle Centralised.bufferedShuffle
  rcases h with h | h
  · exact bshufLoop_models_agree B _ _ h
  · rw [h]
    rfl

/-- byte strings: `b ++ [0]` is the immediate successor of `b` (no id lies strictly between), which is
why slicing at `b'a\x00'` separates `b'a'` from every longer id. -/
theorem bytes_succ (b c : List Nat) (h : b < c) : ¬ c < b ++ [0] := by
  induction b generalizing c with
  | nil =>
    cases c with
    | nil => exact absurd h (lt_irrefl _)
    | cons x xs => simp [List.cons_lt_cons_iff]
  | cons y ys ih =>
    cases c with
    | nil => simp at h
    | cons x xs =>
      rw [List.cons_append, List.cons_lt_cons_iff]
      rw [List.cons_lt_cons_iff] at h
      rintro (h2 | ⟨rfl, h3⟩)
      · exact h.elim (Nat.lt_asymm h2) fun h1 => Nat.lt_irrefl _ (h1.1 ▸ h2)
      · exact h.elim (fun h0 => absurd h0 (Nat.lt_irrefl _)) fun h1 => ih xs h1.2 h3

/-- `{b'b': [3], b'a': [1, 2], b'a\x00': []}` in this insertion order -/
def tabEx : List (List Nat × List Nat) := [([98], [3]), ([97], [1, 2]), ([97, 0], [])]
def bigEx : List (List Nat × List Nat) := ([99], [7]) :: tabEx

example : (keys tabEx).Nodup ∧ (keys bigEx).Nodup := by decide +kernel
example : StrictTotal (List Nat) := bytes_strictTotal
-- slicing at `b'a\x00'` keeps `b'a\x00'` and `b'b'`, not `b'a'`; the two implementations list in different orders
example : ((memRoot tabEx).slice (some [97, 0]) none).clientIds = [[97, 0], [98]] := by decide +kernel
example : ((sqlRoot tabEx).slice (some [97, 0]) none).clientIds = [[98], [97, 0]] := by decide +kernel
-- an empty view (the in-memory constructor takes its reference features from the first client only if there is one)
example : ((memRoot tabEx).slice (some [99]) none).numClients = 0 ∧
    ((memRoot tabEx).slice (some [99]) none).clients.1.length = 0 ∧
    ((memRoot tabEx).slice (some [99]) none).clients.2 = false := by decide +kernel
-- start > stop is empty; nested slices intersect
example : ((sqlRoot tabEx).slice (some [98]) (some [97])).numClients = 0 := by decide +kernel
example : (((sqlRoot tabEx).slice (some [97]) none).slice none (some [98])).clientIds = [[97], [97, 0]] := by decide +kernel
-- bulk get: lazily produced prefix, then KeyError
example : (((memRoot tabEx).getClients [[98], [100], [97]]).1.map (·.1),
    ((memRoot tabEx).getClients [[98], [100], [97]]).2) = ([[98]], true) := by decide +kernel
-- subset of a slice, validated
example : (match ((sqlRoot tabEx).slice (some [97, 0]) none).subset [[97]] with
    | .error e => decide (e = .value) | .ok _ => false) = true := by decide +kernel
example : (match (FD.sub (memRoot bigEx) [[98], [97], [97, 0]]).applyAll
      [.slice (some [97, 0]) none, .preClient (fun _ r => r.map (· + 10)), .preBatch (fun r => r.map (· * 2))] with
    | .ok fd => decide ((fd.getClient [98]).toOption.map CDS.allExamples = some [26] ∧ fd.numClients = 2)
    | .error _ => false) = true := by decide +kernel
-- the hypotheses of `C08_all_equal_roots` hold for this table, a permuted insertion order and a larger base
example := C08_all_equal_roots bytes_strictTotal List.length tabEx tabEx.reverse bigEx bigEx.reverse
  [[98], [97], [97, 0]] (by decide +kernel) (by decide +kernel) (by decide +kernel) (by decide +kernel)
  (by decide +kernel) (by decide +kernel) (by decide +kernel)
-- a dataset constructed with the chain [+10] and extended by (*2): registration order (x+10)*2, not x*2+10
example : (match (FD.mem (Id := List Nat) ⟨tabEx, [fun _ r => r.map (· + 10)], []⟩).applyAll
      [.preClient (fun _ r => r.map (· * 2))] with
    | .ok fd => decide ((fd.getClient [98]).toOption.map CDS.allExamples = some [26])
    | .error _ => false) = true := by decide +kernel
example : bufferedShuffle 3 (fun l => l.reverse) [0, 1, 2, 1] [0, 1, 2, 3, 4, 5, 6] = [2, 3, 1, 5, 4, 6, 0] := by
  decide +kernel

end FedjaxVerif.FedData
