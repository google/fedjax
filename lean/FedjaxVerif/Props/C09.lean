import FedjaxVerif.Model.Experiment
import FedjaxVerif.Model.FedAvg
import FedjaxVerif.Lemmas.ListAux

/-!
# C09 — an interrupted experiment resumes to the uninterrupted result

Theorems about `Model/Experiment.lean`.  They quantify over every algorithm (`Alg σ`, any state
type), every configuration (`numRounds`, `freq`, `keep ≥ 1` where retention is concerned, `evalFreq`,
number of final evaluations, number of partial-write states of checkpoint and `.tsv` writes), every
starting directory that satisfies the invariant (in particular the empty one), every crash point and
every sequence of crashes.
-/

namespace FedjaxVerif.Experiment

variable {σ : Type}

theorem ckptOf_eq_some {n : Name} {q : Nat} : ckptOf n = some q ↔ n = .ckpt q := by
  cases n <;> simp [ckptOf]

theorem get_cons (p : Name × Content σ) (fs : FS σ) (m : Name) :
    FS.get (p :: fs) m = if p.1 = m then some p.2 else FS.get fs m := by
  simp only [FS.get, List.find?_cons]
  by_cases h : p.1 = m <;> simp [h]

theorem get_remove (fs : FS σ) (n m : Name) :
    (fs.remove n).get m = if m = n then none else fs.get m := by
  unfold FS.get FS.remove
  rw [List.find?_filter]
  split
  · subst m
    simp
  · rename_i h
    congr 2
    funext a
    by_cases h' : a.1 = m <;> simp [h', h]

theorem get_remove_same (fs : FS σ) (n : Name) : (fs.remove n).get n = none := by
  rw [get_remove, if_pos rfl]

theorem get_write (fs : FS σ) (n m : Name) (c : Content σ) :
    (fs.write n c).get m = if m = n then some c else fs.get m := by
  rw [FS.write, get_cons, get_remove]
  by_cases h : m = n
  · rw [if_pos h.symm, if_pos h]
  · rw [if_neg (Ne.symm h), if_neg h, if_neg h]

theorem mem_ckpts {fs : FS σ} {r : Nat} : r ∈ fs.ckpts ↔ ∃ c, fs.get (.ckpt r) = some c := by
  simp only [FS.ckpts, List.mem_filterMap, ckptOf_eq_some, FS.get, ← Option.isSome_iff_exists,
    Option.isSome_map, List.find?_isSome, decide_eq_true_eq]

theorem ckpts_remove_ckpt (fs : FS σ) (q : Nat) :
    (fs.remove (.ckpt q)).ckpts = fs.ckpts.filter (· ≠ q) := by
  unfold FS.ckpts FS.remove
  rw [List.filterMap_filter, List.filter_filterMap]
  congr 1
  funext p
  cases p.1 <;> simp [ckptOf, Option.filter]

theorem ckpts_remove_of_none {fs : FS σ} {n : Name} (h : ckptOf n = none) :
    (fs.remove n).ckpts = fs.ckpts := by
  unfold FS.ckpts FS.remove
  rw [List.filterMap_filter]
  congr 1
  funext p
  by_cases hp : p.1 = n
  · simp [hp, h]
  · simp [hp]

theorem ckpts_write (fs : FS σ) (n : Name) (c : Content σ) :
    (fs.write n c).ckpts = (ckptOf n).toList ++ (fs.remove n).ckpts := by
  cases n <;> rfl

@[simp] theorem applyEffs_nil (fs : FS σ) : applyEffs fs [] = fs := rfl

@[simp] theorem applyEffs_cons (fs : FS σ) (e : Eff σ) (es : List (Eff σ)) :
    applyEffs fs (e :: es) = applyEffs (applyEff fs e) es := rfl

@[simp] theorem applyEffs_append (fs : FS σ) (a b : List (Eff σ)) :
    applyEffs fs (a ++ b) = applyEffs (applyEffs fs a) b := List.foldl_append

@[simp] theorem applyEff_step (fs : FS σ) : applyEff fs .step = fs := rfl

theorem get_writeEffs (fs : FS σ) (n m : Name) (parts : Nat → Content σ) (whole : Content σ) (k : Nat) :
    (applyEffs fs (writeEffs n parts whole k)).get m = if m = n then some whole else fs.get m := by
  rw [writeEffs, applyEffs_append, applyEffs_cons, applyEffs_nil, applyEff, get_write]
  split
  · rfl
  · rename_i hm
    refine List.foldlRecOn (motive := fun g => g.get m = fs.get m) _ applyEff rfl fun g hg e he => ?_
    obtain ⟨i, _, rfl⟩ := List.mem_map.mp he
    rw [applyEff, get_write, if_neg hm, hg]

theorem insertSorted_perm {x : Nat} {l : List Nat} : (insertSorted x l).Perm (x :: l) := by
  induction l with
  | nil => exact .refl _
  | cons y ys ih =>
    unfold insertSorted
    split
    · exact .refl _
    · exact (ih.cons y).trans (.swap x y ys)

theorem sortNat_perm (l : List Nat) : (sortNat l).Perm l := by
  induction l with
  | nil => exact .refl _
  | cons x l ih => exact insertSorted_perm.trans (ih.cons x)

theorem insertSorted_sorted {x : Nat} {l : List Nat} (h : l.Pairwise (· ≤ ·)) :
    (insertSorted x l).Pairwise (· ≤ ·) := by
  induction l with
  | nil => exact List.pairwise_singleton _ _
  | cons y ys ih =>
    have ⟨hy, hys⟩ := List.pairwise_cons.mp h
    unfold insertSorted
    split
    next hxy =>
      exact List.pairwise_cons.mpr
        ⟨List.forall_mem_cons.mpr ⟨hxy, fun a ha => Nat.le_trans hxy (hy a ha)⟩, h⟩
    next hxy =>
      refine List.pairwise_cons.mpr ⟨fun a ha => ?_, ih hys⟩
      exact List.forall_mem_cons.mpr ⟨Nat.le_of_not_le hxy, hy⟩ a (insertSorted_perm.mem_iff.mp ha)

theorem sortNat_sorted (l : List Nat) : (sortNat l).Pairwise (· ≤ ·) := by
  induction l with
  | nil => exact List.Pairwise.nil
  | cons x l ih => exact insertSorted_sorted ih

/-- `load` looks at the numerically largest checkpoint name only -/
theorem load_cases (fs : FS σ) :
    (load fs = .fresh ∧ fs.ckpts = []) ∨
    ∃ r, r ∈ fs.ckpts ∧ (∀ q ∈ fs.ckpts, q ≤ r) ∧
      load fs = match fs.get (.ckpt r) with
        | some (.full s) => .ok s r
        | _ => .corrupt := by
  unfold load
  have hp := sortNat_perm fs.ckpts
  cases hl : (sortNat fs.ckpts).getLast? with
  | none =>
    rw [List.getLast?_eq_none_iff] at hl
    exact .inl ⟨rfl, List.nil_perm.mp (hl ▸ hp)⟩
  | some r =>
    have ⟨hmem, hmax⟩ := ListAux.getLast?_of_pairwise (sortNat_sorted fs.ckpts) hl
    refine .inr ⟨r, hp.mem_iff.mp hmem, fun q hq => ?_, rfl⟩
    exact (hmax q (hp.mem_iff.mpr hq)).elim Nat.le_of_eq id

/-- **the invariant**: a file visible under a checkpoint name `r` is the complete pickle of the
state of the uninterrupted run after `r` rounds (and `r` is a round of this experiment). -/
def Inv (alg : Alg σ) (R : Nat) (fs : FS σ) : Prop :=
  ∀ r c, fs.get (.ckpt r) = some c → c = .full (S alg r) ∧ r ≤ R

section
variable {alg : Alg σ} {R : Nat} {cfg : Cfg} {fs fs0 : FS σ} {e : Eff σ} {es : List (Eff σ)}
  {st : LoopSt σ} {start : Nat}

theorem inv_nil : Inv alg R ([] : FS σ) := by
  intro r c h
  cases h

/-- effects that leave the list of checkpoint names alone -/
def NoCkpt : Eff σ → Prop
  | .step => True
  | .write n _ => ckptOf n = none
  | .remove n => ckptOf n = none
  | .rename _ _ => False

theorem ckpts_applyEffs_noCkpt (h : ∀ e ∈ es, NoCkpt e) : (applyEffs fs es).ckpts = fs.ckpts :=
  List.foldlRecOn (motive := fun g => g.ckpts = fs.ckpts) es applyEff rfl fun g hg e he => by
    have hn := h e he
    cases e with
    | step => exact hg
    | write n c =>
      rw [applyEff, ckpts_write, ckpts_remove_of_none hn, hn]
      exact hg
    | remove n => exact (ckpts_remove_of_none hn).trans hg
    | rename a b => exact hn.elim

theorem writeEffs_noCkpt {n : Name} {parts : Nat → Content σ} {whole : Content σ} {k : Nat}
    (hn : ckptOf n = none) : ∀ e ∈ writeEffs n parts whole k, NoCkpt e := by
  intro e he
  simp only [writeEffs, List.mem_append, List.mem_map, List.mem_singleton] at he
  rcases he with ⟨i, _, rfl⟩ | rfl
  · exact hn
  · exact hn

theorem finalEffs_noCkpt {s : σ} {r : Nat} : ∀ e ∈ finalEffs cfg s r, NoCkpt e := by
  intro x hx
  obtain ⟨i, _, hx⟩ := List.mem_flatMap.mp hx
  rcases List.mem_cons.mp hx with rfl | hx
  · trivial
  · exact writeEffs_noCkpt rfl x hx

/-- effects that keep the invariant in directory `fs`: a write under a name that is no checkpoint
name, any removal, or the publication `rename (tmp r) (ckpt r)` of a complete temp file -/
def EffOK (alg : Alg σ) (R : Nat) (fs : FS σ) : Eff σ → Prop
  | .rename a b => ∃ r, a = .tmp r ∧ b = .ckpt r ∧ fs.get (.tmp r) = some (.full (S alg r)) ∧ r ≤ R
  | .write n _ => ckptOf n = none
  | _ => True

theorem effOK_of_noCkpt (h : NoCkpt e) : EffOK alg R fs e := by
  cases e with
  | rename => exact h.elim
  | write => exact h
  | _ => trivial

theorem inv_applyEff (hi : Inv alg R fs) (he : EffOK alg R fs e) : Inv alg R (applyEff fs e) := by
  intro q c' h
  cases e with
  | step => exact hi q c' h
  | write n c =>
    rw [applyEff, get_write, if_neg (by rintro rfl; cases he)] at h
    exact hi q c' h
  | remove n =>
    rw [applyEff, get_remove] at h
    split at h
    · cases h
    · exact hi q c' h
  | rename a b =>
    obtain ⟨r, rfl, rfl, hget, hr⟩ := he
    simp only [applyEff, hget, get_write, get_remove, Name.ckpt.injEq, reduceCtorEq, if_false] at h
    split at h
    · cases h
      subst q
      exact ⟨rfl, hr⟩
    · exact hi q c' h

/-- every effect of the list is `EffOK` in the directory it is applied to -/
def ListOK (alg : Alg σ) (R : Nat) : FS σ → List (Eff σ) → Prop
  | _, [] => True
  | fs, e :: es => EffOK alg R fs e ∧ ListOK alg R (applyEff fs e) es

@[simp] theorem listOK_nil : ListOK alg R fs [] := trivial

@[simp] theorem listOK_step_cons : ListOK alg R fs (Eff.step :: es) ↔ ListOK alg R fs es :=
  and_iff_right trivial

theorem listOK_append {a b : List (Eff σ)} :
    ListOK alg R fs (a ++ b) ↔ ListOK alg R fs a ∧ ListOK alg R (applyEffs fs a) b := by
  induction a generalizing fs with
  | nil => simp [ListOK]
  | cons e a ih => simp only [List.cons_append, ListOK, applyEffs_cons, ih, and_assoc]

theorem listOK_of_forall (h : ∀ e ∈ es, ∀ g, EffOK alg R g e) : ListOK alg R fs es := by
  induction es generalizing fs with
  | nil => trivial
  | cons e es ih =>
    exact ⟨h e List.mem_cons_self fs, ih fun e' he' => h e' (List.mem_cons_of_mem _ he')⟩

theorem listOK_noCkpt (h : ∀ e ∈ es, NoCkpt e) : ListOK alg R fs es :=
  listOK_of_forall fun e he _ => effOK_of_noCkpt (h e he)

theorem inv_prefix (hi : Inv alg R fs) (hok : ListOK alg R fs es) (c : Nat) :
    Inv alg R (applyEffs fs (es.take c)) := by
  induction es generalizing fs c with
  | nil => simpa using hi
  | cons e es ih =>
    cases c with
    | zero => exact hi
    | succ c => exact ih (inv_applyEff hi hok.1) hok.2 c

theorem saveEffs_ok {r : Nat} (hr : r ≤ R) : ListOK alg R fs (saveEffs cfg fs r (S alg r)) := by
  -- the writes go to the temp name; the rename publishes the complete temp file; any removal is `EffOK`
  simp only [saveEffs, listOK_append, listOK_step_cons, listOK_nil, and_true]
  refine ⟨⟨listOK_noCkpt (writeEffs_noCkpt rfl), ?_, trivial⟩, ?_⟩
  · exact ⟨r, rfl, rfl, (get_writeEffs ..).trans (if_pos rfl), hr⟩
  · refine listOK_of_forall fun e he g => ?_
    obtain ⟨q, _, rfl⟩ := List.mem_map.mp he
    trivial

theorem roundBody_fs_eq {r : Nat} (h : applyEffs fs0 st.effs = st.fs) :
    applyEffs fs0 (roundBody alg cfg start st r).effs = (roundBody alg cfg start st r).fs := by
  simp only [roundBody, applyEffs_append, h]
  cases shouldEval cfg start r <;> rfl

theorem loop_fs_eq {l : List Nat} (h : applyEffs fs0 st.effs = st.fs) :
    applyEffs fs0 (l.foldl (roundBody alg cfg start) st).effs = (l.foldl (roundBody alg cfg start) st).fs :=
  List.foldlRecOn (motive := fun st : LoopSt σ => applyEffs fs0 st.effs = st.fs) l _ h
    fun _ hst _ _ => roundBody_fs_eq hst

/-- the loop state after round `b` of an invocation started in directory `fs0` -/
structure LoopInv (alg : Alg σ) (cfg : Cfg) (fs0 : FS σ) (b : Nat) (st : LoopSt σ) : Prop where
  s_eq : st.s = S alg b
  samp_eq : st.samp = b + 1
  round_eq : st.roundNum = b
  fs_eq : applyEffs fs0 st.effs = st.fs
  ok : ListOK alg cfg.numRounds fs0 st.effs

theorem body_inv {b : Nat} (h : LoopInv alg cfg fs0 b st) (hb : b + 1 ≤ cfg.numRounds) :
    LoopInv alg cfg fs0 (b + 1) (roundBody alg cfg start st (b + 1)) := by
  have hs : alg.F st.s st.samp = S alg (b + 1) := by
    rw [h.s_eq, h.samp_eq]
    rfl
  refine ⟨hs, congrArg (· + 1) h.samp_eq, rfl, roundBody_fs_eq h.fs_eq, ?_⟩
  -- only the effects of `save_checkpoint` matter: everything else in a round is a `step`
  simp only [roundBody, listOK_append, applyEffs_append, applyEffs_cons, applyEffs_nil, applyEff_step,
    listOK_step_cons, listOK_nil, h.fs_eq, h.ok, hs, true_and, and_true]
  constructor
  · split
    -- `(_ :)`: with the goal, elaboration unfolds `ListOK` on the list: slow
    · exact (saveEffs_ok hb :)
    · trivial
  · cases shouldEval cfg start (b + 1) <;> trivial

theorem loop_inv {b n : Nat} (h : LoopInv alg cfg fs0 b st) (hb : b + n ≤ cfg.numRounds) :
    LoopInv alg cfg fs0 (b + n) ((List.range' (b + 1) n).foldl (roundBody alg cfg start) st) := by
  refine ListAux.foldl_range'_rec (fun k st => LoopInv alg cfg fs0 (b + k) st) h ?_
  intro k st hk hst
  rw [Nat.add_right_comm]
  exact body_inv hst (Nat.le_trans (Nat.add_le_add_left hk b) hb)

theorem final_tsv {n i : Nat} (hi : i < n) {s : σ} {r k : Nat} :
    (applyEffs fs ((List.range n).flatMap fun j => tsvEffs j s r k)).get (.tsv i) = some (.out i s r) := by
  induction n with
  | zero => exact absurd hi (Nat.not_lt_zero i)
  | succ n ih =>
    rw [List.range_succ, List.flatMap_append, applyEffs_append, List.flatMap_singleton, tsvEffs,
      applyEffs_cons, applyEff_step, get_writeEffs]
    split
    next h => rw [Name.tsv.inj h]
    next h => exact ih (Nat.lt_of_le_of_ne (Nat.le_of_lt_succ hi) fun hin => h (congrArg _ hin))

structure PlanOK (alg : Alg σ) (cfg : Cfg) (fs : FS σ) (p : Plan σ) : Prop where
  state_eq : p.state = S alg cfg.numRounds
  round_eq : p.evalRound = cfg.numRounds
  ok : ListOK alg cfg.numRounds fs p.effs
  tsv : ∀ i, i < cfg.nFinal →
    (applyEffs fs p.effs).get (.tsv i) = some (.out i (S alg cfg.numRounds) cfg.numRounds)

theorem runFrom_spec {b : Nat} (hb : b ≤ cfg.numRounds) :
    PlanOK alg cfg fs (runFrom alg cfg fs (S alg b) (b + 1)) := by
  -- `ListOK` of the two opening `step`s is `trivial`
  have h0 : LoopInv alg cfg fs b ⟨S alg b, fs, b + 1, b + 1 - 1, [Eff.step, Eff.step]⟩ :=
    ⟨rfl, rfl, rfl, rfl, trivial, trivial, trivial⟩
  have hl := loop_inv (start := b + 1) h0 (Nat.le_of_eq (Nat.add_sub_cancel' hb))
  -- `runFrom` runs the `numRounds + 1 - (b + 1)` rounds from `b + 1` on: bring `hl` to that form
  rw [Nat.add_sub_cancel' hb, ← Nat.add_sub_add_right cfg.numRounds 1 b] at hl
  refine ⟨hl.s_eq, hl.round_eq, ?_, fun i hi => ?_⟩
  · exact (listOK_append.mpr ⟨hl.ok, listOK_noCkpt finalEffs_noCkpt⟩ :)
  · simp only [runFrom, applyEffs_append, hl.s_eq, hl.round_eq]
    exact final_tsv hi

theorem load_spec (hi : Inv alg R fs) :
    (load fs = .fresh ∧ fs.ckpts = []) ∨
    ∃ r, load fs = .ok (S alg r) r ∧ r ≤ R ∧ r ∈ fs.ckpts ∧ ∀ q ∈ fs.ckpts, q ≤ r := by
  rcases load_cases fs with h | ⟨r, hmem, hmax, hl⟩
  · exact .inl h
  · obtain ⟨c, hc⟩ := mem_ckpts.mp hmem
    obtain ⟨rfl, hr⟩ := hi r c hc
    rw [hc] at hl
    exact .inr ⟨r, hl, hr, hmem, hmax⟩

theorem plan_spec (hi : Inv alg cfg.numRounds fs) :
    ∃ p, plan alg cfg fs = some p ∧ PlanOK alg cfg fs p := by
  unfold plan
  rcases load_spec hi with ⟨hl, _⟩ | ⟨r, hl, hr, _, _⟩
  · rw [hl]
    exact ⟨_, rfl, runFrom_spec (Nat.zero_le _)⟩
  · rw [hl]
    exact ⟨_, rfl, runFrom_spec hr⟩

end

/-- **Core (visible ⇒ complete).** After a crash at *any* point of an invocation — between any two
steps, after any partial chunk of a checkpoint or `.tsv` write, before the rename, before or between
the deletions — every file visible under a checkpoint name is the complete pickle of the right state. -/
theorem C09_visible_complete_step (alg : Alg σ) (cfg : Cfg) (fs : FS σ) (c : Nat)
    (hi : Inv alg cfg.numRounds fs) : Inv alg cfg.numRounds (crashAt alg cfg fs c) := by
  obtain ⟨p, hp, hok⟩ := plan_spec hi
  unfold crashAt
  rw [hp]
  exact inv_prefix hi hok.ok c

/-- **Core.** After any sequence of crashes, starting from the empty directory (or any directory
satisfying the invariant), every file visible under a checkpoint name is the complete pickle of the
right state. -/
theorem C09_visible_complete (alg : Alg σ) (cfg : Cfg) (cs : List Nat) (fs : FS σ)
    (hi : Inv alg cfg.numRounds fs) : Inv alg cfg.numRounds (crashes alg cfg cs fs) :=
  List.foldlRecOn (motive := Inv alg cfg.numRounds) cs (crashAt alg cfg) hi
    fun g hg c _ => C09_visible_complete_step alg cfg g c hg

theorem loadable_of_inv {alg : Alg σ} {cfg : Cfg} {cs : List Nat} {fs : FS σ}
    (hi : Inv alg cfg.numRounds fs) :
    load (crashes alg cfg cs fs) = .fresh ∨
    ∃ r, load (crashes alg cfg cs fs) = .ok (S alg r) r ∧ r ≤ cfg.numRounds := by
  rcases load_spec (C09_visible_complete alg cfg cs fs hi) with h | ⟨r, h, hr, _⟩
  · exact .inl h.1
  · exact .inr ⟨r, h, hr⟩

/-- Hence a visible checkpoint is always loadable: `load` never fails after any crash sequence. -/
theorem C09_loadable (alg : Alg σ) (cfg : Cfg) (cs : List Nat) :
    load (crashes alg cfg cs ([] : FS σ)) = .fresh ∨
    ∃ r, load (crashes alg cfg cs ([] : FS σ)) = .ok (S alg r) r ∧ r ≤ cfg.numRounds :=
  loadable_of_inv inv_nil

/-- **Core (newest wins), ordering part** — no invariant needed: whatever `load` returns is the
content of the numerically largest checkpoint name (`checkpoint_00000010` beats `…09`). -/
theorem C09_newest_wins_order (fs : FS σ) (s : σ) (r : Nat) (h : load fs = .ok s r) :
    r ∈ fs.ckpts ∧ (∀ q ∈ fs.ckpts, q ≤ r) ∧ fs.get (.ckpt r) = some (.full s) := by
  rcases load_cases fs with ⟨hl, _⟩ | ⟨m, hmem, hmax, hl⟩
  · rw [hl] at h
    cases h
  · rw [hl] at h
    split at h
    · cases h
      exact ⟨hmem, hmax, ‹_›⟩
    · cases h

/-- **Core (newest wins).** After any crash sequence, if any checkpoint is visible, `load` returns
`(S r*, r*)` for the numerically largest visible round `r*`. -/
theorem C09_newest_wins (alg : Alg σ) (cfg : Cfg) (cs : List Nat) (fs : FS σ)
    (hi : Inv alg cfg.numRounds fs) (hne : (crashes alg cfg cs fs).ckpts ≠ []) :
    ∃ r, load (crashes alg cfg cs fs) = .ok (S alg r) r ∧ r ∈ (crashes alg cfg cs fs).ckpts ∧
      ∀ q ∈ (crashes alg cfg cs fs).ckpts, q ≤ r := by
  rcases load_spec (C09_visible_complete alg cfg cs fs hi) with h | ⟨r, h, _, hm, hx⟩
  · exact absurd h.2 hne
  · exact ⟨r, h, hm, hx⟩

/-- **Core (resume).** After any sequence of crashes, re-running the same call completes, returns
the final state of the uninterrupted run, evaluates with the last round number and leaves the
complete final-evaluation output of that state in every `.tsv` — also when the restart happens after
the last round (no loop iteration) or after a crash during final evaluation. -/
theorem C09_resume (alg : Alg σ) (cfg : Cfg) (cs : List Nat) (fs : FS σ) (hi : Inv alg cfg.numRounds fs) :
    ∃ res, runAll alg cfg (crashes alg cfg cs fs) = some res ∧
      res.state = S alg cfg.numRounds ∧ res.evalRound = cfg.numRounds ∧
      (∀ e, e < cfg.nFinal → res.fs.get (.tsv e) = some (.out e (S alg cfg.numRounds) cfg.numRounds)) ∧
      Inv alg cfg.numRounds res.fs := by
  have hi' := C09_visible_complete alg cfg cs fs hi
  obtain ⟨p, hp, hok⟩ := plan_spec hi'
  have hinv := inv_prefix hi' hok.ok p.effs.length
  rw [List.take_length] at hinv
  refine ⟨⟨p.state, p.evalRound, applyEffs _ p.effs⟩, ?_, hok.state_eq, hok.round_eq, hok.tsv, hinv⟩
  rw [runAll, hp]
  rfl

/-- **Core (resume = uninterrupted).** The resumed run and the run that was never interrupted
(both from the empty directory) return the same state, evaluate at the same round and write the same
final-evaluation output. -/
theorem C09_resume_eq_uninterrupted (alg : Alg σ) (cfg : Cfg) (cs : List Nat) :
    ∃ res res0, runAll alg cfg (crashes alg cfg cs ([] : FS σ)) = some res ∧
      runAll alg cfg ([] : FS σ) = some res0 ∧
      res.state = res0.state ∧ res.evalRound = res0.evalRound ∧
      ∀ e, e < cfg.nFinal → res.fs.get (.tsv e) = res0.fs.get (.tsv e) ∧ (res.fs.get (.tsv e)).isSome := by
  obtain ⟨res, h1, hs, hr, ht, _⟩ := C09_resume alg cfg cs [] inv_nil
  obtain ⟨res0, h2, hs0, hr0, ht0, _⟩ := C09_resume alg cfg [] [] inv_nil
  refine ⟨res, res0, h1, h2, hs.trans hs0.symm, hr.trans hr0.symm, ?_⟩
  intro e he
  rw [ht e he, ht0 e he]
  exact ⟨rfl, rfl⟩

theorem S_eq_foldl (alg : Alg σ) (R : Nat) :
    S alg R = (List.range R).foldl (fun s i => alg.F s (i + 1)) alg.init := by
  induction R with
  | zero => rfl
  | succ R ih =>
    rw [List.range_succ, List.foldl_append, ← ih]
    rfl

/-! ## composition with the round model of C01 and the sampler purity of C13

`run_federated_experiment` is instantiated with federated averaging and a round-indexed sampler.
C13 shows that the sampler's cohort is a function `cohortOf` of the round number alone; C01 models the
round.  The experiment of C09 then runs the algorithm `F s r = FedAvg.round … s (cohortOf r)`, and
resuming after any crash schedule returns exactly the `R`-round FedAvg fold over the cohorts of
rounds `1 … R` — the same state an uninterrupted run computes. -/

section
open FedjaxVerif.FedAvg

variable {β σc σs ι : Type} [DecidableEq ι]

/-- federated averaging driven by a round-indexed sampler, as an experiment algorithm -/
def fedAvgAlg (grad : P → β → Key → P) (copt : FedAvg.Optimizer σc) (sopt : FedAvg.Optimizer σs)
    (s0 : ServerState σs) (cohortOf : Nat → List (FedAvg.Client ι β)) : Alg (ServerState σs) :=
  { init := s0, F := fun s r => FedAvg.round grad copt sopt s (cohortOf r) }

/-- **End-to-end resume.** For federated averaging with any gradient function, optimizers and
round-indexed cohorts, any experiment configuration and any crash schedule: the re-run completes and
its final server state is the `numRounds`-round FedAvg fold over the cohorts of rounds
`1 … numRounds` (parameters *and* server optimizer state), and the final evaluation is made with the
last round number. -/
theorem C09_resume_fedavg (grad : P → β → Key → P) (copt : FedAvg.Optimizer σc)
    (sopt : FedAvg.Optimizer σs) (s0 : ServerState σs) (cohortOf : Nat → List (FedAvg.Client ι β))
    (cfg : Cfg) (cs : List Nat) :
    ∃ res, runAll (fedAvgAlg grad copt sopt s0 cohortOf) cfg
        (crashes (fedAvgAlg grad copt sopt s0 cohortOf) cfg cs []) = some res ∧
      res.state = FedAvg.rounds grad copt sopt s0
        ((List.range cfg.numRounds).map fun i => cohortOf (i + 1)) ∧
      res.evalRound = cfg.numRounds := by
  obtain ⟨res, h1, hs, hr, _, _⟩ :=
    C09_resume (fedAvgAlg grad copt sopt s0 cohortOf) cfg cs [] inv_nil
  refine ⟨res, h1, ?_, hr⟩
  rw [hs, S_eq_foldl, FedAvg.rounds, List.foldl_map]
  rfl

end

/-- well-formed directory: no name occurs twice -/
def WF (fs : FS σ) : Prop := (fs.map (·.1)).Nodup

theorem wf_nil : WF ([] : FS σ) := List.nodup_nil

theorem wf_remove {fs : FS σ} {n : Name} (h : WF fs) : WF (fs.remove n) :=
  List.Nodup.sublist (List.Sublist.map _ List.filter_sublist) h

theorem wf_write {fs : FS σ} {n : Name} {c : Content σ} (h : WF fs) : WF (fs.write n c) := by
  refine List.nodup_cons.mpr ⟨fun hm => ?_, wf_remove h⟩
  obtain ⟨p, hp, hpn⟩ := List.mem_map.mp hm
  exact of_decide_eq_true (List.mem_filter.mp hp).2 hpn

theorem ckpts_nodup {fs : FS σ} (h : WF fs) : fs.ckpts.Nodup := by
  refine List.Pairwise.filterMap _ ?_ (List.pairwise_map.mp h)
  intro a a' hne b hb b' hb' hbb
  rw [ckptOf_eq_some] at hb hb'
  exact hne (by rw [hb, hb', hbb])

theorem wf_applyEffs {fs : FS σ} {es : List (Eff σ)} (h : WF fs) : WF (applyEffs fs es) := by
  refine List.foldlRecOn es applyEff h fun g hg e _ => ?_
  cases e with
  | step => exact hg
  | write n c => exact wf_write hg
  | remove n => exact wf_remove hg
  | rename a b =>
    simp only [applyEff]
    split
    · exact wf_write (wf_remove hg)
    · exact hg

/-- the list `save_checkpoint` sorts: the new round and the other visible rounds -/
def withNew (fs : FS σ) (r : Nat) : List Nat := r :: fs.ckpts.filter (· ≠ r)

theorem withNew_nodup {fs : FS σ} (hwf : WF fs) (r : Nat) : (withNew fs r).Nodup :=
  List.nodup_cons.mpr ⟨by simp, (ckpts_nodup hwf).sublist List.filter_sublist⟩

theorem ckpts_publish (fs : FS σ) (r : Nat) (s : σ) (k : Nat) :
    (applyEffs fs (writeEffs (.tmp r) (fun k => .part s k) (.full s) k ++ [Eff.rename (.tmp r) (.ckpt r)])).ckpts
      = withNew fs r := by
  simp only [applyEffs_append, applyEffs_cons, applyEffs_nil, applyEff, get_writeEffs, if_true]
  rw [ckpts_write, ckpts_remove_ckpt, ckpts_remove_of_none rfl,
    ckpts_applyEffs_noCkpt (writeEffs_noCkpt rfl)]
  rfl

theorem ckpts_removes (dels : List Nat) (g : FS σ) :
    (applyEffs g (dels.map fun q => Eff.remove (.ckpt q))).ckpts = g.ckpts.filter (fun x => decide (x ∉ dels)) := by
  induction dels generalizing g with
  | nil => exact (List.filter_eq_self.mpr fun _ _ => rfl).symm
  | cons q ds ih =>
    simp only [List.map_cons, applyEffs_cons, ih, applyEff, ckpts_remove_ckpt, List.filter_filter]
    apply List.filter_congr
    intro x _
    simp only [List.mem_cons, not_or, Bool.decide_and, Bool.and_comm]

theorem filter_notin_take {l : List Nat} (hn : l.Nodup) (k : Nat) :
    l.filter (fun x => decide (x ∉ l.take k)) = l.drop k := by
  -- `l = take k ++ drop k` with disjoint halves: the filter empties the first and keeps the second
  rw [← List.take_append_drop k l] at hn
  obtain ⟨_, _, hdis⟩ := List.nodup_append.mp hn
  have h : (l.take k ++ l.drop k).filter (fun x => decide (x ∉ l.take k)) = l.drop k := by
    rw [List.filter_append, List.filter_eq_nil_iff.mpr (fun a ha => by simp [ha]),
      List.filter_eq_self.mpr (fun a ha => by simpa using fun hb => hdis a hb a ha rfl), List.nil_append]
  rwa [List.take_append_drop] at h

/-- **Retention (which files).** After a completed `save_checkpoint` with `keep ≥ 1`, the visible
checkpoints are exactly the `keep` numerically largest of (the new one + those visible before). -/
theorem C09_retention_newest (cfg : Cfg) (hk : 1 ≤ cfg.keep) (fs : FS σ) (hwf : WF fs) (r : Nat) (s : σ) :
    ((applyEffs fs (saveEffs cfg fs r s)).ckpts).Perm
      ((sortNat (withNew fs r)).drop ((withNew fs r).length - cfg.keep)) := by
  have hperm := sortNat_perm (withNew fs r)
  -- the removals are a `take` of the sorted listing, whose rounds are distinct: what stays is the `drop`
  simp only [saveEffs, if_neg (Nat.ne_of_gt hk)]
  rw [applyEffs_append, applyEffs_append, ckpts_removes, applyEffs_cons, applyEffs_nil, applyEff_step,
    ckpts_publish, hperm.length_eq, ← filter_notin_take (hperm.nodup_iff.mpr (withNew_nodup hwf r))]
  exact hperm.symm.filter _

/-- **Core (retention, count).** After every completed save the number of checkpoint files is
`min keep (previous + 1)` (previous = those visible before, not counting a file of the same round). -/
theorem C09_retention (cfg : Cfg) (hk : 1 ≤ cfg.keep) (fs : FS σ) (hwf : WF fs) (r : Nat) (s : σ) :
    (applyEffs fs (saveEffs cfg fs r s)).ckpts.length
      = min cfg.keep ((fs.ckpts.filter (· ≠ r)).length + 1) := by
  rw [(C09_retention_newest cfg hk fs hwf r s).length_eq, List.length_drop,
    (sortNat_perm (withNew fs r)).length_eq, Nat.sub_sub_eq_min, Nat.min_comm]
  rfl

/-- In particular at most `keep` checkpoints are retained after every save. -/
theorem C09_retention_le (cfg : Cfg) (hk : 1 ≤ cfg.keep) (fs : FS σ) (hwf : WF fs) (r : Nat) (s : σ) :
    (applyEffs fs (saveEffs cfg fs r s)).ckpts.length ≤ cfg.keep := by
  rw [C09_retention cfg hk fs hwf r s]
  exact Nat.min_le_left _ _

/-- Every checkpoint that a save removes is older than every checkpoint it retains, and the retained
ones were all visible before (or are the new one). -/
theorem C09_retention_oldest_removed (cfg : Cfg) (hk : 1 ≤ cfg.keep) (fs : FS σ) (hwf : WF fs) (r : Nat) (s : σ)
    (q q' : Nat) (hq : q ∈ (applyEffs fs (saveEffs cfg fs r s)).ckpts)
    (hq' : q' ∈ withNew fs r) (hrm : q' ∉ (applyEffs fs (saveEffs cfg fs r s)).ckpts) :
    q' ≤ q ∧ q ∈ withNew fs r := by
  have hperm := C09_retention_newest cfg hk fs hwf r s
  have hp := sortNat_perm (withNew fs r)
  have hs := sortNat_sorted (withNew fs r)
  generalize (withNew fs r).length - cfg.keep = k at hperm
  -- the sorted list is what is removed (`take k`) followed by what is kept (`drop k`)
  rw [← List.take_append_drop k (sortNat (withNew fs r))] at hs hp
  have hqd := hperm.mem_iff.mp hq
  refine ⟨?_, hp.mem_iff.mp (List.mem_append_right _ hqd)⟩
  rcases List.mem_append.mp (hp.mem_iff.mpr hq') with h | h
  · exact (List.pairwise_append.mp hs).2.2 q' h q hqd
  · exact absurd (hperm.mem_iff.mpr h) hrm

/-- The checkpoint just written survives its own clean-up when it is the newest (as it always is in
the experiment loop: rounds only grow). -/
theorem C09_retention_keeps_new (cfg : Cfg) (hk : 1 ≤ cfg.keep) (fs : FS σ) (hwf : WF fs) (r : Nat) (s : σ)
    (hmax : ∀ q ∈ fs.ckpts, q ≤ r) : r ∈ (applyEffs fs (saveEffs cfg fs r s)).ckpts := by
  -- something is kept (`keep ≥ 1`); were `r` removed, what is kept would be at least as new as `r`
  have hpos : 0 < (applyEffs fs (saveEffs cfg fs r s)).ckpts.length := by
    rw [C09_retention cfg hk fs hwf r s]
    exact Nat.lt_min.mpr ⟨hk, Nat.succ_pos _⟩
  obtain ⟨q, hq⟩ := List.exists_mem_of_length_pos hpos
  apply Decidable.byContradiction
  intro hr
  obtain ⟨hle, hq'⟩ := C09_retention_oldest_removed cfg hk fs hwf r s q r hq List.mem_cons_self hr
  have hqr : q ≤ r := by
    rcases List.mem_cons.mp hq' with rfl | hq'
    · exact Nat.le_refl _
    · exact hmax q (List.mem_filter.mp hq').1
  obtain rfl : q = r := Nat.le_antisymm hqr hle
  exact hr hq

theorem wf_crashes {alg : Alg σ} {cfg : Cfg} {cs : List Nat} {fs : FS σ} (h : WF fs) :
    WF (crashes alg cfg cs fs) :=
  List.foldlRecOn cs (crashAt alg cfg) h fun g hg c _ => by
    unfold crashAt
    split
    · exact hg
    · exact wf_applyEffs hg

theorem loop_count {alg : Alg σ} {cfg : Cfg} (hk : 1 ≤ cfg.keep) (hf : cfg.freq ≠ 0) {start : Nat}
    {st : LoopSt σ} (hwf : WF st.fs) {n : Nat} (hn : 0 < n) :
    ((List.range' start n).foldl (roundBody alg cfg start) st).fs.ckpts.length ≤ cfg.keep := by
  refine (ListAux.foldl_range'_rec
    (fun k (st : LoopSt σ) => WF st.fs ∧ (0 < k → st.fs.ckpts.length ≤ cfg.keep))
    ⟨hwf, fun h => absurd h (Nat.lt_irrefl 0)⟩ ?_).2 hn
  intro k st _ ⟨hwf, hc⟩
  simp only [roundBody]
  split
  · exact ⟨wf_applyEffs hwf, fun _ => C09_retention_le cfg hk st.fs hwf _ _⟩
  · rename_i hs
    refine ⟨hwf, fun _ => hc ?_⟩
    -- the first round of an invocation always saves
    cases k with
    | zero => simp [shouldSave, hf] at hs
    | succ k => exact Nat.succ_pos k

theorem runFrom_count {alg : Alg σ} {cfg : Cfg} (hk : 1 ≤ cfg.keep) (hf : cfg.freq ≠ 0) {fs : FS σ}
    (hwf : WF fs) (s : σ) {start : Nat} (hst : start ≤ cfg.numRounds) :
    (applyEffs fs (runFrom alg cfg fs s start).effs).ckpts.length ≤ cfg.keep := by
  simp only [runFrom, applyEffs_append]
  rw [ckpts_applyEffs_noCkpt finalEffs_noCkpt, loop_fs_eq rfl]
  exact loop_count hk hf hwf (Nat.sub_pos_of_lt (Nat.lt_succ_of_le hst))

/-- a run that executes at least one round, from any well-formed directory, ends with at most
`keep` checkpoints -/
theorem runAll_count {alg : Alg σ} {cfg : Cfg} (hk : 1 ≤ cfg.keep) (hf : cfg.freq ≠ 0) {g : FS σ}
    (hwf : WF g) {res : Result σ} (hres : runAll alg cfg g = some res)
    (hfresh : load g = .fresh → 1 ≤ cfg.numRounds) (hok : ∀ s r, load g = .ok s r → r < cfg.numRounds) :
    res.fs.ckpts.length ≤ cfg.keep := by
  unfold runAll plan at hres
  split at hres
  · cases hres
  · cases hres
    exact runFrom_count hk hf hwf _ (hfresh ‹_›)
  · cases hres
    exact runFrom_count hk hf hwf _ (hok _ _ ‹_›)

/-- **Retention along a run.** After any crash sequence (where more than `keep` checkpoints may be
lying around), a re-run that executes at least one round ends with at most `keep` checkpoints:
the surplus lasts only until the next save. -/
theorem C09_retention_run (alg : Alg σ) (cfg : Cfg) (hk : 1 ≤ cfg.keep) (hf : cfg.freq ≠ 0) (cs : List Nat)
    (res : Result σ) (hres : runAll alg cfg (crashes alg cfg cs ([] : FS σ)) = some res)
    (hfresh : load (crashes alg cfg cs ([] : FS σ)) = .fresh → 1 ≤ cfg.numRounds)
    (hok : ∀ s r, load (crashes alg cfg cs ([] : FS σ)) = .ok s r → r < cfg.numRounds) :
    res.fs.ckpts.length ≤ cfg.keep :=
  runAll_count hk hf (wf_crashes wf_nil) hres hfresh hok

/-- the free algorithm: the state is the list of rounds applied -/
def algFree : Alg (List Nat) := ⟨[], fun s r => s ++ [r]⟩
-- `numRounds` 3, `freq` 1, `keep` 1, `evalFreq` 2, `chunks` 2, `nFinal` 1, `tsvChunks` 1
def cfg0 : Cfg := ⟨3, 1, 1, 2, 2, 1, 1⟩

example : Inv algFree 3 ([] : FS (List Nat)) := inv_nil
example : S algFree 3 = [1, 2, 3] := by decide +kernel
-- a crash in the middle of the second checkpoint write: tmp file partial, checkpoint 1 complete
-- (14 effects: load and `set_round_num`, the 9 of round 1, sample and apply of round 2, the first chunk)
example : crashAt algFree cfg0 [] 14 = [(.tmp 2, .part [1, 2] 0), (.ckpt 1, .full [1])] := by decide +kernel
example : load (crashes algFree cfg0 [14] []) = .ok [1] 1 := by decide +kernel
-- after these three crashes two checkpoints are visible although keep = 1 (crash before the deletion) …
example : (crashes algFree cfg0 [14, 9, 3] []).ckpts = [2, 1] := by decide +kernel
-- … the resumed run returns the uninterrupted state and output, and ends with one checkpoint
example : ((runAll algFree cfg0 (crashes algFree cfg0 [14, 9, 3] [])).map fun r => r.fs.ckpts) = some [3] := by
  decide +kernel
example : (runAll algFree cfg0 (crashes algFree cfg0 [14, 9, 3] [])).map (fun r => (r.state, r.evalRound))
    = some ([1, 2, 3], 3) := by decide +kernel
example : ((runAll algFree cfg0 (crashes algFree cfg0 [14, 9, 3] [])).map fun r => r.fs.get (.tsv 0))
    = some (some (.out 0 [1, 2, 3] 3)) := by decide +kernel
-- restart after the last round: no loop iteration, final evaluation with round 3
example : ((runAll algFree cfg0 [(.ckpt 3, .full [1, 2, 3])]).map fun r => (r.state, r.evalRound))
    = some ([1, 2, 3], 3) := by decide +kernel
-- an in-place (non-atomic) write would break the invariant: a truncated newest checkpoint kills every re-run
example : (runAll algFree cfg0 [(.ckpt 2, .part [1, 2] 0), (.ckpt 1, .full [1])]).isNone := by decide +kernel
-- numeric, not lexical, order
example : load ([(.ckpt 9, .full [9]), (.ckpt 10, .full [10])] : FS (List Nat)) = .ok [10] 10 := by decide +kernel
-- retention: keep = 2, three visible + the new one -> two newest remain
def fs3 : FS (List Nat) := [(.ckpt 1, .full [1]), (.ckpt 5, .full [5]), (.ckpt 3, .full [3])]
example : (applyEffs fs3 (saveEffs ⟨9, 1, 2, 0, 1, 0, 0⟩ fs3 7 [7])).ckpts = [7, 5] := by decide +kernel
example : WF fs3 := by
  unfold WF
  decide

end FedjaxVerif.Experiment
