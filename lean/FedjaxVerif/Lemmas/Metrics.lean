import FedjaxVerif.Lemmas.Blocks
import FedjaxVerif.Lemmas.Stats
import FedjaxVerif.Model.Metrics

/-!
Shape and validity of the statistics produced by the built-in metrics (`Model/Metrics.lean`):
every `evaluate_example` result has the documented number of entries and lies in the documented
domain of its `Stat` type.  Used by `Props/C05.lean` and `Props/C14.lean`.
-/

namespace FedjaxVerif.Metrics
open FedjaxVerif.Stats

/-- an example whose per-position features all have `len` positions -/
def Ex.WellShaped (len : Nat) (e : Ex) : Prop :=
  e.targets.length = len ∧ e.scores.length = len ∧ e.logp.length = len

theorem length_perDomainV {σ : Type} (z : σ) (n : Nat) (d : Int) (v : List σ) :
    (perDomainV z n d v).length = n * v.length :=
  Blocks.length_flatMap_range _ (fun r => by split <;> simp only [List.length_map]) n

theorem forall_mem_perDomainV {σ : Type} {z : σ} {n : Nat} {d : Int} {v : List σ}
    {P : σ → Prop} (hv : ∀ x ∈ v, P x) (hz : P z) : ∀ x ∈ perDomainV z n d v, P x :=
  List.forall_mem_flatMap.mpr fun i _ => by
    split
    · exact hv
    · exact List.forall_mem_map.mpr fun _ _ => hz

theorem getD_perDomainV {σ : Type} (z : σ) (dom : Int) {v : List σ} {D m d i : Nat}
    (hv : v.length = m) (hd : d < D) (hi : i < m) :
    (perDomainV z D dom v).getD (d * m + i) z = if (d : Int) = dom then v.getD i z else z := by
  unfold perDomainV
  rw [Blocks.getD_flatMap_range _ (fun r => by split <;> simp only [List.length_map, hv]) z hd hi]
  split
  · rfl
  · rw [List.getD_eq_getElem?_getD, List.getElem?_map]
    cases v[i]? <;> rfl

/-- the weight of an entry is an entry of `ws` (per position) or their sum (one entry for the
sequence): what `P` may assume of it -/
theorem forall_mem_tokenStat {pp : Bool} {vals ws : List Rat} {P : MeanStat → Prop}
    (h : ∀ a w, w ∈ ws ∨ w = ws.sum → P (MeanStat.new a w)) :
    ∀ s ∈ tokenStat pp vals ws, P s := by
  unfold tokenStat
  split
  · intro s hs
    obtain ⟨i, hi, rfl⟩ := List.mem_iff_getElem.mp hs
    rw [List.length_zipWith] at hi
    rw [List.getElem_zipWith]
    exact h _ _ (Or.inl (List.getElem_mem (Nat.lt_of_lt_of_le hi (Nat.min_le_right ..))))
  · exact List.forall_mem_singleton.mpr (h _ _ (Or.inr rfl))

theorem tokenStat_valid (pp : Bool) (vals ws : List Rat) : ∀ s ∈ tokenStat pp vals ws, s.Valid :=
  forall_mem_tokenStat fun a w _ => MeanStat.new_valid a w

theorem length_tokenStat (pp : Bool) (vals ws : List Rat) :
    (tokenStat pp vals ws).length = if pp then min vals.length ws.length else 1 := by
  unfold tokenStat
  split <;> simp only [List.length_zipWith, List.length_singleton]

theorem weights_length (masked : List Int) (ts : List Int) : (weights masked ts).length = ts.length := by
  simp [weights]

theorem MeanMetric.eval_valid (m : MeanMetric) (e : Ex) : ∀ s ∈ m.eval e, s.Valid := by
  induction m with
  | perDomain base n ih => exact forall_mem_perDomainV ih MeanStat.zero_valid
  | seqTokenCE _ _ | seqTokenAcc _ _ _ | seqTokenTopK _ _ _ _ | seqOOVRate _ _ _ =>
    exact tokenStat_valid _ _ _
  | _ =>
    intro s hs
    rw [List.mem_singleton.mp hs]
    exact MeanStat.new_valid _ _

theorem MeanMetric.eval_length (m : MeanMetric) {len : Nat} {e : Ex} (he : e.WellShaped len) :
    (m.eval e).length = m.size len := by
  obtain ⟨h1, h2, h3⟩ := he
  induction m with
  | perDomain base n ih => exact (length_perDomainV ..).trans (congrArg (n * ·) ih)
  | seqTokenCE _ _ | seqTokenAcc _ _ _ | seqTokenTopK _ _ _ _ | seqOOVRate _ _ _ =>
    refine (length_tokenStat ..).trans ?_
    simp only [weights_length, List.length_zipWith, List.length_map, h1, h2, h3, Nat.min_self]
    rfl
  | _ => rfl

theorem MeanMetric.eval_vecValid (m : MeanMetric) (len : Nat) (e : Ex) (he : e.WellShaped len) :
    VecValid (m.size len) MeanStat.Valid (m.eval e) :=
  ⟨m.eval_length he, m.eval_valid e⟩

theorem SumMetric.eval_length (m : SumMetric) (e : Ex) : (m.eval e).length = m.size := by
  induction m with
  | perDomain base n ih => exact (length_perDomainV ..).trans (congrArg (n * ·) ih)
  | confusion c =>
    exact Blocks.length_flatMap_range _ (fun r => by rw [List.length_map, List.length_range]) c
  | _ => rfl

theorem SumMetric.eval_vecValid (m : SumMetric) (e : Ex) :
    VecValid m.size (fun _ => True) (m.eval e) :=
  ⟨m.eval_length e, fun _ _ => trivial⟩

end FedjaxVerif.Metrics
