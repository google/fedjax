/-!
# Cutting `N` items into pieces of `b`; `⌈log₂ n⌉` by search

The models count pieces as `(N + b - 1) / b` (Python's `range(0, N, b)`, `-(-N // b)`) and whole
pieces as `N / b`.  Piece `i` starts at `i * b`: it exists iff `i * b < N` and is whole iff
`i * b + b ≤ N`.  The lemmas below say so, which lets proofs about pieces speak of `i * b` alone and
keep `/` and `%` away from `omega`.

`math.ceil(math.log2(n))` is modelled twice, word for word (`Quantize.ceilLog2`,
`Hadamard.ceilLog2`), as a search with fuel; the last section characterises the search once, for
any function with the two defining equations.
Core Lean only.
-/

namespace FedjaxVerif.Ceil

theorem lt_ceil_iff {N b i : Nat} (h : 0 < b) : i < (N + b - 1) / b ↔ i * b < N := by
  rw [Nat.lt_div_iff_mul_lt h, Nat.add_sub_assoc h, Nat.add_sub_cancel]

theorem lt_floor_iff {N b i : Nat} (h : 0 < b) : i < N / b ↔ i * b + b ≤ N := by
  rw [Nat.lt_iff_add_one_le, Nat.le_div_iff_mul_le h, Nat.succ_mul]

/-- the pieces cover everything … -/
theorem le_ceil_mul (N : Nat) {b : Nat} (h : 0 < b) : N ≤ (N + b - 1) / b * b :=
  Nat.le_of_not_lt fun hlt => Nat.lt_irrefl _ ((lt_ceil_iff h).mpr hlt)

/-- … and the last one is not empty -/
theorem ceil_mul_lt (N : Nat) {b : Nat} (h : 0 < b) : (N + b - 1) / b * b < N + b :=
  Nat.lt_of_le_of_lt (Nat.div_mul_le_self ..) (Nat.sub_one_lt_of_lt (Nat.lt_add_of_pos_right h))

theorem floor_le_ceil (N : Nat) {b : Nat} (h : 0 < b) : N / b ≤ (N + b - 1) / b :=
  Nat.div_le_div_right (Nat.le_sub_one_of_lt (Nat.lt_add_of_pos_right h))

/-- the one piece that exists and is not whole holds the remainder -/
theorem sub_eq_mod {N b i : Nat} (h1 : i * b ≤ N) (h2 : N < i * b + b) : N - i * b = N % b := by
  rw [← Nat.mod_eq_of_lt (Nat.sub_lt_left_of_lt_add h1 h2), ← Nat.add_mul_mod_self_right _ i,
    Nat.sub_add_cancel h1]

section log2
variable {n : Nat} {go : Nat → Nat → Nat} (h0 : ∀ k, go 0 k = k)
  (hs : ∀ fuel k, go (fuel + 1) k = if n ≤ 2 ^ k then k else go fuel (k + 1))
include h0 hs

/-- `go fuel k` tries `k, k + 1, …`: it finds the least exponent whose power of two reaches `n`,
given that none below `k` does and the fuel lasts. -/
theorem ceilLog2Go_le_iff (m : Nat) :
    ∀ fuel k, n ≤ 2 ^ (k + fuel) → (∀ j < k, ¬ n ≤ 2 ^ j) → (go fuel k ≤ m ↔ n ≤ 2 ^ m)
  | 0, k, h1, h2 => by
    rw [h0]
    exact ⟨fun h => Nat.le_trans h1 (Nat.pow_le_pow_right Nat.two_pos h),
      fun h => Nat.le_of_not_lt fun hk => h2 m hk h⟩
  | fuel + 1, k, h1, h2 => by
    rw [hs]
    split
    · exact ⟨fun h => Nat.le_trans ‹_› (Nat.pow_le_pow_right Nat.two_pos h),
        fun h => Nat.le_of_not_lt fun hk => h2 m hk h⟩
    · exact ceilLog2Go_le_iff m fuel (k + 1) (by rwa [Nat.add_right_comm, Nat.add_assoc])
        fun j hj => (Nat.lt_succ_iff_lt_or_eq.1 hj).elim (h2 j) fun e => e ▸ ‹_›

/-- from `0` with fuel `n`, which lasts because `n < 2 ^ n` -/
theorem ceilLog2_le_iff (m : Nat) : go n 0 ≤ m ↔ n ≤ 2 ^ m :=
  ceilLog2Go_le_iff h0 hs m n 0 (by rw [Nat.zero_add]; exact Nat.le_of_lt Nat.lt_two_pow_self) nofun

end log2

end FedjaxVerif.Ceil
