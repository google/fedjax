import FedjaxVerif.Model.FedAvg
import FedjaxVerif.Lemmas.Vec
import Mathlib.Algebra.Ring.Rat

/-!
# The vector operations of `Model/FedAvg.lean`

`vadd` and `vsub` cut to the shorter argument, so the laws that drop a term carry a length hypothesis;
those that only regroup terms need none.
-/

namespace FedjaxVerif.FedAvg

@[simp] theorem vadd_length (a b : P) : (vadd a b).length = min a.length b.length :=
  List.length_zipWith

@[simp] theorem vsub_length (a b : P) : (vsub a b).length = min a.length b.length :=
  List.length_zipWith

@[simp] theorem vscale_length (c : Rat) (a : P) : (vscale c a).length = a.length :=
  List.length_map _

@[simp] theorem vzero_length (a : P) : (vzero a).length = a.length :=
  List.length_map _

theorem vadd_getD {a b : P} (h : a.length = b.length) (j : Nat) :
    (vadd a b)[j]?.getD 0 = a[j]?.getD 0 + b[j]?.getD 0 :=
  Vec.getD_zipWith _ (add_zero 0) a b h j

theorem vsub_getD {a b : P} (h : a.length = b.length) (j : Nat) :
    (vsub a b)[j]?.getD 0 = a[j]?.getD 0 - b[j]?.getD 0 :=
  Vec.getD_zipWith _ (sub_zero 0) a b h j

@[simp] theorem vscale_getD (c : Rat) (a : P) (j : Nat) :
    (vscale c a)[j]?.getD 0 = c * a[j]?.getD 0 :=
  Vec.getD_map _ (mul_zero c) a j

@[simp] theorem vzero_getD (a : P) (j : Nat) : (vzero a)[j]?.getD 0 = 0 :=
  Vec.getD_map (fun _ => (0 : Rat)) (a := 0) rfl a j

theorem vadd_comm (a b : P) : vadd a b = vadd b a :=
  List.zipWith_comm_of_comm Rat.add_comm

theorem vadd_right_comm (a b c : P) : vadd (vadd a b) c = vadd (vadd a c) b :=
  Vec.zipWith_add_right_comm a b c

theorem vadd_assoc (a b c : P) : vadd (vadd a b) c = vadd a (vadd b c) := by
  rw [vadd_comm a (vadd b c), vadd_right_comm b c a, vadd_comm b a]

@[simp] theorem vzero_vzero (a : P) : vzero (vzero a) = vzero a :=
  List.map_map ..

theorem vzero_eq_replicate (v : P) : vzero v = List.replicate v.length 0 :=
  List.map_const' ..

theorem vscale_vscale (a b : Rat) (v : P) : vscale a (vscale b v) = vscale (a * b) v := by
  simp only [vscale, List.map_map, Function.comp_def, mul_assoc]

theorem vscale_vadd (c : Rat) (a b : P) : vscale c (vadd a b) = vadd (vscale c a) (vscale c b) := by
  simp only [vscale, vadd, List.map_zipWith, List.zipWith_map, mul_add]

theorem vscale_one (v : P) : vscale 1 v = v := by
  simp only [vscale, one_mul, List.map_id']

theorem vscale_zero (v : P) : vscale 0 v = vzero v := by
  simp only [vscale, vzero, zero_mul]

theorem vscale_vzero (c : Rat) (v : P) : vscale c (vzero v) = vzero v := by
  simp only [vscale, vzero, List.map_map, Function.comp_def, mul_zero]

theorem vsub_self (p : P) : vsub p p = vzero p := by
  simp only [vsub, vzero, List.zipWith_self, sub_self]

theorem vsub_eq_vadd_neg (p v : P) : vsub p v = vadd p (vscale (-1) v) := by
  simp only [vsub, vadd, vscale, List.zipWith_map_right, neg_one_mul, sub_eq_add_neg]

theorem vsub_vscale (c : Rat) (p v : P) : vsub p (vscale c v) = vadd p (vscale (-c) v) := by
  rw [vsub_eq_vadd_neg, vscale_vscale, neg_one_mul]

/-- a zero vector at least as long as `a` is a right unit -/
theorem vadd_vzero (a v : P) (h : a.length ≤ v.length) : vadd a (vzero v) = a := by
  induction a generalizing v with
  | nil => rfl
  | cons x a ih =>
    cases v with
    | nil => exact absurd h (Nat.not_succ_le_zero _)
    | cons y v =>
      exact congrArg₂ List.cons (add_zero x) (ih v (Nat.le_of_succ_le_succ h))

theorem vzero_vadd (a v : P) (h : a.length ≤ v.length) : vadd (vzero v) a = a := by
  rw [vadd_comm, vadd_vzero a v h]

theorem vsub_vzero (a v : P) (h : a.length ≤ v.length) : vsub a (vzero v) = a := by
  rw [vsub_eq_vadd_neg, vscale_vzero, vadd_vzero a v h]

theorem vsub_vadd_cancel (p w : P) (h : w.length ≤ p.length) :
    vsub p (vadd p w) = vscale (-1) w := by
  rw [vsub_eq_vadd_neg, vscale_vadd, ← vadd_assoc, ← vsub_eq_vadd_neg p p, vsub_self,
    vzero_vadd _ _ (by rwa [vscale_length])]

end FedjaxVerif.FedAvg
