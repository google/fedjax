import Mathlib.Algebra.BigOperators.Group.List.Basic

/-!
# Flat vectors as lists

The models keep parameters, deltas and gradients as coordinate lists and combine them with
`List.zipWith` and `List.map`.  Coordinate `k` is read with default `0`: `x[k]?.getD 0`, which is
`x.getD k 0` by definition.  With `foldl_pair`, `foldl_add` and `foldl_zipWith_add` every accumulation
loop of the models becomes a sum.
-/

namespace FedjaxVerif.Vec

variable {α β γ ι : Type}

theorem foldl_pair (g : β → ι → β) (h : γ → ι → γ) (xs : List ι) (b : β) (c : γ) :
    xs.foldl (fun acc x => (g acc.1 x, h acc.2 x)) (b, c) = (xs.foldl g b, xs.foldl h c) := by
  induction xs generalizing b c with
  | nil => rfl
  | cons x xs ih => exact ih _ _

theorem getD_range_map [Zero α] (f : Nat → α) {n k : Nat} (hk : k < n) :
    ((List.range n).map f)[k]?.getD 0 = f k := by
  rw [List.getElem?_map, List.getElem?_range hk]
  rfl

theorem eq_range_map [Zero α] (x : List α) : x = (List.range x.length).map (x[·]?.getD 0) := by
  refine List.ext_getElem (by rw [List.length_map, List.length_range]) fun i h _ => ?_
  rw [List.getElem_map, List.getElem_range, List.getElem?_eq_getElem h]
  rfl

theorem ext_getD [Zero α] {x y : List α} (hl : x.length = y.length)
    (h : ∀ k < x.length, x[k]?.getD 0 = y[k]?.getD 0) : x = y := by
  refine List.ext_getElem hl fun k hx hy => ?_
  have := h k hx
  rwa [List.getElem?_eq_getElem hx, List.getElem?_eq_getElem hy] at this

/-- `zipWith f` is coordinate-wise on lists of one length, read with defaults that `f` respects. -/
theorem getD_zipWith (f : α → β → γ) {a : α} {b : β} {c : γ} (hf : f a b = c) (x : List α)
    (y : List β) (h : x.length = y.length) (k : Nat) :
    (List.zipWith f x y)[k]?.getD c = f (x[k]?.getD a) (y[k]?.getD b) := by
  rw [List.getElem?_zipWith]
  rcases Nat.lt_or_ge k x.length with hk | hk
  · rw [List.getElem?_eq_getElem hk, List.getElem?_eq_getElem (h ▸ hk)]
    rfl
  · rw [List.getElem?_eq_none hk, List.getElem?_eq_none (h ▸ hk)]
    exact hf.symm

theorem getD_map (f : α → β) {a : α} {b : β} (hf : f a = b) (x : List α) (k : Nat) :
    (x.map f)[k]?.getD b = f (x[k]?.getD a) := by
  rw [List.getElem?_map]
  cases x[k]? with
  | none => exact hf.symm
  | some _ => rfl

section add
variable [AddCommMonoid α]

/-- No length hypothesis: `zipWith` cuts all three lists to the shortest. -/
theorem zipWith_add_right_comm (a b c : List α) :
    List.zipWith (· + ·) (List.zipWith (· + ·) a b) c
      = List.zipWith (· + ·) (List.zipWith (· + ·) a c) b := by
  induction a generalizing b c with
  | nil => simp
  | cons x a ih =>
    cases b with
    | nil => simp
    | cons y b =>
      cases c with
      | nil => simp
      | cons z c => simp [ih, add_right_comm]

theorem foldl_add (g : ι → α) (xs : List ι) (w : α) :
    xs.foldl (fun w x => w + g x) w = w + (xs.map g).sum := by
  induction xs generalizing w with
  | nil => exact (add_zero w).symm
  | cons x xs ih => rw [List.foldl_cons, ih, List.map_cons, List.sum_cons, add_assoc]

theorem foldl_zipWith_add (f : ι → List α) {d : Nat} {xs : List ι}
    (hf : ∀ x ∈ xs, (f x).length = d) {z : List α} (hz : z.length = d) :
    xs.foldl (fun acc x => List.zipWith (· + ·) acc (f x)) z
      = (List.range d).map fun k => z[k]?.getD 0 + (xs.map fun x => (f x)[k]?.getD 0).sum := by
  induction xs generalizing z with
  | nil =>
    subst hz
    exact (eq_range_map z).trans (List.map_congr_left fun k _ => (add_zero _).symm)
  | cons x xs ih =>
    have hx : (f x).length = d := hf x List.mem_cons_self
    rw [List.foldl_cons, ih (fun y hy => hf y (List.mem_cons_of_mem _ hy))
      (by rw [List.length_zipWith, hz, hx, Nat.min_self])]
    refine List.map_congr_left fun k _ => ?_
    rw [getD_zipWith _ (add_zero 0) _ _ (hz.trans hx.symm), List.map_cons, List.sum_cons, add_assoc]

end add

end FedjaxVerif.Vec
