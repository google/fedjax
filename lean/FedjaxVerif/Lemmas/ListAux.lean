/-!
# Four small theories about core lists

What several property files need of `List` and core does not state: a fact about one step of a fold
carried to the whole fold, search by key among entries with distinct keys, the last entry of a
sorted list, and key paths that cannot be prefixes of one another.  No imports, so the files that
stand on core alone can use it as well.
-/

namespace FedjaxVerif.ListAux

universe u v w

/-! ## one step, many steps

For plain folds core has what is needed: `List.foldlRecOn` (an invariant), `List.foldl_rel` (a
relation between two folds), `List.foldl_hom`, `List.foldl_map`.  Their higher-order arguments
(`motive`, `r`) are not found by unification and are given by name at each use.  Here: the same for
a fold in `Option` (a round that may raise), and an invariant that may mention the position. -/

section fold
variable {σ : Type u} {τ : Type v} {α : Type w}

/-- A run none of whose steps raises is the plain run. -/
theorem foldlM_eq_some_foldl {f : σ → α → Option σ} {g : σ → α → σ} {l : List α}
    (step : ∀ a ∈ l, ∀ s, f s a = some (g s a)) (s : σ) : l.foldlM f s = some (l.foldl g s) := by
  induction l generalizing s with
  | nil => rfl
  | cons a l ih =>
    rw [List.foldlM_cons, step a List.mem_cons_self s]
    exact ih (fun a' ha' => step a' (List.mem_cons_of_mem _ ha')) _

/-- A run in `Option` that returned simulates the plain run, when each step that returns does. -/
theorem rel_of_foldlM_eq_some {f : σ → α → Option σ} {g : τ → α → τ} {r : σ → τ → Prop}
    {l : List α} (step : ∀ a ∈ l, ∀ s t s', r s t → f s a = some s' → r s' (g t a)) {s s' : σ}
    {t : τ} (h : r s t) (hs : l.foldlM f s = some s') : r s' (l.foldl g t) := by
  induction l generalizing s t with
  | nil =>
    cases hs
    exact h
  | cons a l ih =>
    rw [List.foldlM_cons] at hs
    cases hfa : f s a with
    | none =>
      rw [hfa] at hs
      cases hs
    | some s₁ =>
      rw [hfa] at hs
      exact ih (fun a' ha' => step a' (List.mem_cons_of_mem _ ha'))
        (step a List.mem_cons_self s t s₁ h hfa) hs

/-- `List.foldlRecOn` over `List.range'`, with the number of steps taken in view of the invariant. -/
theorem foldl_range'_rec {f : σ → Nat → σ} (P : Nat → σ → Prop) {s n : Nat} {a : σ}
    (h0 : P 0 a) (hs : ∀ k a, k < n → P k a → P (k + 1) (f a (s + k))) :
    P n ((List.range' s n).foldl f a) := by
  induction n with
  | zero => exact h0
  | succ n ih =>
    rw [List.range'_concat, List.foldl_append, Nat.one_mul]
    exact hs n _ (Nat.lt_succ_self n) (ih fun k a hk => hs k a (Nat.lt_succ_of_lt hk))

end fold

/-- Among entries with pairwise distinct keys, a search for the key of a member finds that member
(`p` is whatever test for "same key as `x`" the model uses: `decide (· = ·)`, `==`). -/
theorem find?_of_nodup_map {α : Type u} {κ : Type v} (key : α → κ) {p : α → Bool} {l : List α}
    (hnd : (l.map key).Nodup) {x : α} (hx : x ∈ l) (hp : ∀ y, p y = true ↔ key y = key x) :
    l.find? p = some x := by
  induction l with
  | nil => cases hx
  | cons y l ih =>
    rw [List.map_cons, List.nodup_cons] at hnd
    rcases List.mem_cons.mp hx with rfl | hx
    · rw [List.find?_cons_of_pos ((hp _).mpr rfl)]
    · rw [List.find?_cons_of_neg fun h => hnd.1 ((hp y).mp h ▸ List.mem_map_of_mem hx)]
      exact ih hnd.2 hx

/-- The last entry of a list sorted by `r` is `r`-above every other entry (`x = m ∨ …`: `r` may be
irreflexive, and `m` itself is among the `x`). -/
theorem getLast?_of_pairwise {α : Type u} {r : α → α → Prop} {l : List α} (hs : l.Pairwise r)
    {m : α} (hm : l.getLast? = some m) : m ∈ l ∧ ∀ x ∈ l, x = m ∨ r x m := by
  obtain ⟨ys, rfl⟩ := List.getLast?_eq_some_iff.mp hm
  have hm : m ∈ [m] := List.mem_singleton_self m
  refine ⟨List.mem_append_right ys hm, fun x hx => ?_⟩
  rcases List.mem_append.mp hx with hx | hx
  · exact .inr ((List.pairwise_append.mp hs).2.2 x hx m hm)
  · exact .inl (List.mem_singleton.mp hx)

/-- A run of `a` copies of `z` closed by `o ≠ z` determines `a`, so the paths `zᵃ o …` are
prefix-free in `a`: this is what keeps the PRNG keys of a chain of `split`s apart. -/
theorem replicate_prefix {α : Type u} {z o : α} (hzo : z ≠ o) {a b : Nat} {x y : List α}
    (h : List.replicate a z ++ o :: x <+: List.replicate b z ++ o :: y) : a = b ∧ x <+: y := by
  -- in each case both lists are `cons`es by computation, which `cons_prefix_cons` compares
  induction a generalizing b with
  | zero =>
    cases b with
    | zero => exact ⟨rfl, (List.cons_prefix_cons.mp h).2⟩
    | succ b => exact absurd (List.cons_prefix_cons.mp h).1.symm hzo
  | succ a ih =>
    cases b with
    | zero => exact absurd (List.cons_prefix_cons.mp h).1 hzo
    | succ b => exact (ih (List.cons_prefix_cons.mp h).2).imp_left (congrArg _)

end FedjaxVerif.ListAux
