/-!
# Streams of equal-length blocks

`(List.range e).flatMap g` is the stream `g 0 ++ g 1 ++ … ++ g (e-1)`.  When every block has the
same length `n`, block boundaries are at the multiples of `n`: the epochs of a shuffled view and
the passes of `shuffled_clients` are such streams.
Core Lean only.
-/

namespace FedjaxVerif.Blocks

/-- position `i` of block `d` lies within `D` blocks of `m` -/
theorem index_lt {D m d i : Nat} (hd : d < D) (hi : i < m) : d * m + i < D * m :=
  Nat.lt_of_lt_of_le (Nat.add_lt_add_left hi _) (Nat.succ_mul d m ▸ Nat.mul_le_mul_right m hd)

variable {α : Type _} (g : Nat → List α) {n : Nat} (hg : ∀ i, (g i).length = n)
include hg

theorem length_flatMap_range (e : Nat) : ((List.range e).flatMap g).length = e * n := by
  induction e with
  | zero => simp
  | succ e ih =>
    rw [List.range_succ, List.flatMap_append, List.length_append, ih, Nat.succ_mul]
    simp [hg]

theorem flatMap_range_take_mul {q e : Nat} (h : q ≤ e) :
    ((List.range e).flatMap g).take (q * n) = (List.range q).flatMap g := by
  obtain ⟨d, rfl⟩ := Nat.exists_eq_add_of_le h
  rw [List.range_add, List.flatMap_append, List.take_left' (length_flatMap_range g hg q)]

theorem flatMap_range_drop_take {p e m : Nat} (hp : p < e) (hm : m ≤ n) :
    (((List.range e).flatMap g).drop (p * n)).take m = (g p).take m := by
  obtain ⟨d, rfl⟩ := Nat.exists_eq_add_of_lt hp
  -- split `range (p + (d + 1))` at `p`: after the `p` dropped blocks the first one is `g (p + 0)`
  rw [Nat.add_assoc, List.range_add, List.flatMap_append,
    List.drop_left' (length_flatMap_range g hg p), List.flatMap_map, List.range_succ_eq_map,
    List.flatMap_cons, List.take_append_of_le_length (hg _ ▸ hm)]
  rfl

theorem getD_flatMap_range (z : α) {e r c : Nat} (hr : r < e) (hc : c < n) :
    ((List.range e).flatMap g).getD (r * n + c) z = (g r).getD c z := by
  rw [List.getD_eq_getElem?_getD, List.getD_eq_getElem?_getD, ← List.getElem?_drop,
    ← List.getElem?_take_of_lt hc, flatMap_range_drop_take g hg hr (Nat.le_refl n),
    List.getElem?_take_of_lt hc]

end FedjaxVerif.Blocks
