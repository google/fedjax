import Mathlib.Algebra.Order.Field.Rat
import FedjaxVerif.Model.Stats

/-!
Algebra of `MeanStat` / `SumStat` / pointwise lifts, and the generic consequences for
`evalBatch` / `evalModel` (used by `Props/C05.lean` and `Props/C14.lean`).

For a lawful statistic everything is expressed through `reduce` of the list of single-example
statistics: `reduce` is the product of the commutative monoid that `merge` forms on the valid
statistics, so it turns `++` into `merge`, ignores order and ignores entries equal to `zero`.
-/

namespace FedjaxVerif.Stats

namespace MeanStat

theorem new_of_pos {a w : Rat} (h : 0 < w) : new a w = ⟨a, w⟩ := by
  simp only [new, max_eq_right h.le, if_neg h.ne']

theorem new_of_nonpos {a w : Rat} (h : w ≤ 0) : new a w = ⟨0, 0⟩ := by
  simp only [new, max_eq_left h, if_pos]

theorem new_valid (a w : Rat) : (new a w).Valid := by
  rcases lt_or_ge 0 w with h | h
  · rw [new_of_pos h]; exact Or.inr h
  · rw [new_of_nonpos h]; exact Or.inl ⟨rfl, rfl⟩

theorem zero_eq : zero = ⟨0, 0⟩ := new_of_nonpos (le_refl 0)

theorem new_zero_weight (a : Rat) : new a 0 = zero := by
  rw [new_of_nonpos (le_refl 0), zero_eq]

theorem zero_valid : zero.Valid := new_valid 0 0

theorem Valid.weight_nonneg {s : MeanStat} (h : s.Valid) : 0 ≤ s.weight := by
  rcases h with ⟨_, h⟩ | h
  · rw [h]
  · exact h.le

/-- `new` only sanitises: it fixes the documented domain -/
theorem Valid.new_self {s : MeanStat} (h : s.Valid) : new s.accum s.weight = s := by
  rcases h with ⟨h1, h2⟩ | h
  · rw [new_of_nonpos h2.le]
    show (⟨0, 0⟩ : MeanStat) = ⟨s.accum, s.weight⟩
    rw [h1, h2]
  · rw [new_of_pos h]

theorem Valid.add {s t : MeanStat} (hs : s.Valid) (ht : t.Valid) :
    Valid ⟨s.accum + t.accum, s.weight + t.weight⟩ := by
  rcases hs with ⟨h1, h2⟩ | hs
  · rw [h1, h2, zero_add, zero_add]; exact ht
  · exact Or.inr (add_pos_of_pos_of_nonneg hs ht.weight_nonneg)

theorem merge_eq_add {s t : MeanStat} (hs : s.Valid) (ht : t.Valid) :
    merge s t = ⟨s.accum + t.accum, s.weight + t.weight⟩ :=
  (Valid.add hs ht).new_self

theorem merge_valid (s t : MeanStat) : (merge s t).Valid := new_valid _ _

theorem sum_valid {l : List MeanStat} (h : ∀ x ∈ l, x.Valid) :
    Valid ⟨(l.map (·.accum)).sum, (l.map (·.weight)).sum⟩ := by
  induction l with
  | nil => exact Or.inl ⟨rfl, rfl⟩
  | cons a l ih =>
    obtain ⟨ha, hl⟩ := List.forall_mem_cons.mp h
    exact Valid.add ha (ih hl)

theorem reduce_eq {l : List MeanStat} (h : ∀ x ∈ l, x.Valid) :
    reduce l = ⟨(l.map (·.accum)).sum, (l.map (·.weight)).sum⟩ :=
  (sum_valid h).new_self

theorem reduce_valid (l : List MeanStat) : (reduce l).Valid := new_valid _ _

theorem result_zero : zero.result = 0 := by simp [result, zero_eq]

end MeanStat

/-- `merge` is a commutative monoid on the valid statistics, and `reduce` is the iterated merge. -/
structure Lawful {σ : Type} (o : StatOps σ) (V : σ → Prop) : Prop where
  zero_valid : V o.zero
  merge_valid : ∀ a b, V a → V b → V (o.merge a b)
  merge_comm : ∀ a b, V a → V b → o.merge a b = o.merge b a
  merge_assoc : ∀ a b c, V a → V b → V c → o.merge (o.merge a b) c = o.merge a (o.merge b c)
  zero_merge : ∀ a, V a → o.merge o.zero a = a
  reduce_nil : o.reduce [] = o.zero
  reduce_cons : ∀ a l, V a → (∀ x ∈ l, V x) → o.reduce (a :: l) = o.merge a (o.reduce l)

/-- On the documented domain `new` is the identity, so `merge` and `reduce` are field-wise sums. -/
theorem meanLawful : Lawful meanOps MeanStat.Valid where
  zero_valid := MeanStat.zero_valid
  merge_valid a b _ _ := MeanStat.merge_valid a b
  merge_comm a b _ _ := by simp only [meanOps, MeanStat.merge, add_comm]
  merge_assoc a b c ha hb hc := by
    simp only [meanOps, MeanStat.merge_eq_add, ha, hb, hc, MeanStat.Valid.add, add_assoc]
  zero_merge a ha := by
    show MeanStat.merge MeanStat.zero a = a
    rw [MeanStat.merge_eq_add MeanStat.zero_valid ha, MeanStat.zero_eq, zero_add, zero_add]
  reduce_nil := rfl
  reduce_cons a l ha hl := by
    simp only [meanOps, MeanStat.reduce_eq hl, MeanStat.merge_eq_add ha (MeanStat.sum_valid hl),
      MeanStat.reduce_eq (List.forall_mem_cons.mpr ⟨ha, hl⟩), List.map_cons, List.sum_cons]

theorem sumLawful : Lawful sumOps (fun _ => True) where
  zero_valid := trivial
  merge_valid _ _ _ _ := trivial
  merge_comm _ _ _ _ := congrArg SumStat.mk (add_comm ..)
  merge_assoc _ _ _ _ _ _ := congrArg SumStat.mk (add_assoc ..)
  zero_merge _ _ := congrArg SumStat.mk (zero_add _)
  reduce_nil := rfl
  reduce_cons _ _ _ _ := rfl

def VecValid {σ : Type} (n : Nat) (V : σ → Prop) (v : List σ) : Prop :=
  v.length = n ∧ ∀ x ∈ v, V x

namespace Lawful

variable {σ : Type} {o : StatOps σ} {V : σ → Prop}

theorem merge_zero (h : Lawful o V) {a : σ} (ha : V a) : o.merge a o.zero = a := by
  rw [h.merge_comm a o.zero ha h.zero_valid, h.zero_merge a ha]

theorem reduce_valid (h : Lawful o V) {l : List σ} (hl : ∀ x ∈ l, V x) : V (o.reduce l) := by
  induction l with
  | nil => rw [h.reduce_nil]; exact h.zero_valid
  | cons a l ih =>
    obtain ⟨ha, hl⟩ := List.forall_mem_cons.mp hl
    rw [h.reduce_cons a l ha hl]
    exact h.merge_valid _ _ ha (ih hl)

theorem reduce_append (h : Lawful o V) {l₁ l₂ : List σ} (h₁ : ∀ x ∈ l₁, V x) (h₂ : ∀ x ∈ l₂, V x) :
    o.reduce (l₁ ++ l₂) = o.merge (o.reduce l₁) (o.reduce l₂) := by
  induction l₁ with
  | nil => rw [h.reduce_nil, h.zero_merge _ (h.reduce_valid h₂)]; rfl
  | cons a l ih =>
    obtain ⟨ha, hl⟩ := List.forall_mem_cons.mp h₁
    rw [List.cons_append, h.reduce_cons a _ ha (List.forall_mem_append.mpr ⟨hl, h₂⟩), ih hl,
      h.reduce_cons a l ha hl, h.merge_assoc _ _ _ ha (h.reduce_valid hl) (h.reduce_valid h₂)]

theorem foldl_merge (h : Lawful o V) {s : σ} (hs : V s) {l : List σ} (hl : ∀ x ∈ l, V x) :
    l.foldl o.merge s = o.merge s (o.reduce l) := by
  induction l generalizing s with
  | nil => rw [h.reduce_nil, h.merge_zero hs]; rfl
  | cons a l ih =>
    obtain ⟨ha, hl⟩ := List.forall_mem_cons.mp hl
    rw [List.foldl_cons, ih (h.merge_valid _ _ hs ha) hl, h.reduce_cons a l ha hl,
      h.merge_assoc _ _ _ hs ha (h.reduce_valid hl)]

theorem reduce_perm (h : Lawful o V) {l₁ l₂ : List σ} (hp : l₁.Perm l₂) (hl : ∀ x ∈ l₁, V x) :
    o.reduce l₁ = o.reduce l₂ := by
  induction hp with
  | nil => rfl
  | cons a p ih =>
    obtain ⟨ha, hl⟩ := List.forall_mem_cons.mp hl
    rw [h.reduce_cons a _ ha hl, h.reduce_cons a _ ha fun x hx => hl x (p.mem_iff.mpr hx), ih hl]
  | swap a b l =>
    obtain ⟨hb, hal⟩ := List.forall_mem_cons.mp hl
    obtain ⟨ha, hl⟩ := List.forall_mem_cons.mp hal
    have hr := h.reduce_valid hl
    rw [h.reduce_cons b _ hb hal, h.reduce_cons a _ ha hl,
      h.reduce_cons a _ ha (List.forall_mem_cons.mpr ⟨hb, hl⟩), h.reduce_cons b _ hb hl,
      ← h.merge_assoc _ _ _ hb ha hr, h.merge_comm b a hb ha, h.merge_assoc _ _ _ ha hb hr]
  | trans p _ ih₁ ih₂ => rw [ih₁ hl, ih₂ fun x hx => hl x (p.mem_iff.mpr hx)]

theorem reduce_map_ite (h : Lawful o V) {α : Type} (p : α → Bool) (g : α → σ) (l : List α)
    (hg : ∀ a ∈ l, p a = true → V (g a)) :
    o.reduce (l.map fun a => if p a then g a else o.zero) = o.reduce ((l.filter p).map g) := by
  induction l with
  | nil => rfl
  | cons a l ih =>
    obtain ⟨ha, hl⟩ := List.forall_mem_cons.mp hg
    have hv : ∀ x ∈ (l.filter p).map g, V x :=
      List.forall_mem_map.mpr fun b hb => hl b (List.mem_filter.mp hb).1 (List.mem_filter.mp hb).2
    have hv' : ∀ x ∈ l.map (fun a => if p a then g a else o.zero), V x :=
      List.forall_mem_map.mpr fun b hb => by
        split
        · exact hl b hb ‹_›
        · exact h.zero_valid
    rw [List.map_cons, List.filter_cons]
    cases hp : p a
    · rw [if_neg Bool.false_ne_true, if_neg Bool.false_ne_true, h.reduce_cons _ _ h.zero_valid hv',
        ih hl, h.zero_merge _ (h.reduce_valid hv)]
    · rw [if_pos rfl, if_pos rfl, List.map_cons, h.reduce_cons _ _ (ha hp) hv',
        h.reduce_cons _ _ (ha hp) hv, ih hl]

theorem getD_valid (h : Lawful o V) {v : List σ} (hv : ∀ x ∈ v, V x) (i : Nat) : V (v.getD i o.zero) := by
  rw [List.getD_eq_getElem?_getD]
  rcases hi : v[i]? with _ | x
  · exact h.zero_valid
  · exact hv x (List.mem_of_getElem? hi)

end Lawful

section vec
variable {σ : Type} {o : StatOps σ} {V : σ → Prop}

theorem length_vec_reduce (n : Nat) (l : List (List σ)) : ((vecOps n o).reduce l).length = n := by
  rw [vecOps, List.length_map, List.length_range]

theorem getD_vec_reduce (o : StatOps σ) (n : Nat) {i : Nat} {l : List (List σ)} (hi : i < n) :
    ((vecOps n o).reduce l).getD i o.zero = o.reduce (l.map fun v => v.getD i o.zero) := by
  simp only [vecOps, List.getD_eq_getElem?_getD, List.getElem?_map, List.getElem?_range hi,
    Option.map_some, Option.getD_some]

theorem length_vec_merge {n : Nat} {a b : List σ} (ha : a.length = n) (hb : b.length = n) :
    ((vecOps n o).merge a b).length = n := by
  rw [vecOps, List.length_zipWith, ha, hb, Nat.min_self]

/-- The laws hold entry by entry. -/
theorem vecLawful (n : Nat) (h : Lawful o V) : Lawful (vecOps n o) (VecValid n V) where
  zero_valid := ⟨List.length_replicate, fun x hx => List.eq_of_mem_replicate hx ▸ h.zero_valid⟩
  merge_valid a b ha hb := by
    refine ⟨length_vec_merge ha.1 hb.1, fun x hx => ?_⟩
    obtain ⟨i, hi, rfl⟩ := List.mem_iff_getElem.mp hx
    simp only [vecOps, List.getElem_zipWith]
    exact h.merge_valid _ _ (ha.2 _ (List.getElem_mem _)) (hb.2 _ (List.getElem_mem _))
  merge_comm a b ha hb := by
    refine List.ext_getElem ((length_vec_merge ha.1 hb.1).trans (length_vec_merge hb.1 ha.1).symm)
      fun i _ _ => ?_
    simp only [vecOps, List.getElem_zipWith]
    exact h.merge_comm _ _ (ha.2 _ (List.getElem_mem _)) (hb.2 _ (List.getElem_mem _))
  merge_assoc a b c ha hb hc := by
    have hab := length_vec_merge (o := o) ha.1 hb.1
    have hbc := length_vec_merge (o := o) hb.1 hc.1
    refine List.ext_getElem ((length_vec_merge hab hc.1).trans (length_vec_merge ha.1 hbc).symm)
      fun i _ _ => ?_
    simp only [vecOps, List.getElem_zipWith]
    exact h.merge_assoc _ _ _ (ha.2 _ (List.getElem_mem _)) (hb.2 _ (List.getElem_mem _))
      (hc.2 _ (List.getElem_mem _))
  zero_merge a ha := by
    refine List.ext_getElem ((length_vec_merge List.length_replicate ha.1).trans ha.1.symm)
      fun i _ _ => ?_
    simp only [vecOps, List.getElem_zipWith, List.getElem_replicate]
    exact h.zero_merge _ (ha.2 _ (List.getElem_mem _))
  reduce_nil := by
    simp only [vecOps, List.map_nil, h.reduce_nil, List.map_const', List.length_range]
  reduce_cons a l ha hl := by
    have hr := length_vec_reduce (o := o) n l
    refine List.ext_getElem (by rw [length_vec_merge ha.1 hr, length_vec_reduce]) fun i _ hi => ?_
    have hi : i < a.length := by rwa [length_vec_merge ha.1 hr, ← ha.1] at hi
    simp only [vecOps, List.getElem_zipWith, List.getElem_map, List.getElem_range, List.map_cons,
      ← List.getElem_eq_getD (h := hi) o.zero]
    exact h.reduce_cons _ _ (ha.2 _ (List.getElem_mem _))
      (List.forall_mem_map.mpr fun v hv => h.getD_valid (hl v hv).2 i)

end vec

section eval
variable {σ ε : Type} {o : StatOps σ} {V : σ → Prop}

theorem maskRows_eq (f : ε → σ) (rows : List ε) (mask : List Bool) :
    maskRows o f rows mask = (rows.zip mask).map fun p => if p.2 then f p.1 else o.zero := by
  simp only [maskRows, List.zip_eq_zipWith, List.map_zipWith]

theorem unmasked_eq (rows : List ε) (mask : List Bool) :
    unmasked rows mask = ((rows.zip mask).filter (·.2)).map (·.1) := by
  rw [unmasked, ← List.filterMap_eq_map', List.filterMap_filter]

theorem mem_unmasked {rows : List ε} {mask : List Bool} {e : ε} :
    e ∈ unmasked rows mask ↔ (e, true) ∈ rows.zip mask := by
  simp only [unmasked_eq, List.mem_map, List.mem_filter]
  exact ⟨fun ⟨p, ⟨hp, hb⟩, he⟩ => by rwa [← he, ← hb], fun h => ⟨_, ⟨h, rfl⟩, rfl⟩⟩

theorem evalBatch_eq (h : Lawful o V) {f : ε → σ} {rows : List ε} {mask : List Bool}
    (hv : ∀ e ∈ unmasked rows mask, V (f e)) :
    evalBatch o f rows (some mask) = o.reduce ((unmasked rows mask).map f) := by
  rw [unmasked_eq, List.map_map]
  show o.reduce (maskRows o f rows mask) = _
  rw [maskRows_eq]
  exact h.reduce_map_ite (fun p : ε × Bool => p.2) (fun p => f p.1) _ fun p hp hb =>
    hv _ (mem_unmasked.mpr (by rwa [← hb]))

theorem evalBatch_valid (h : Lawful o V) (f : ε → σ) (rows : List ε) (mask : List Bool)
    (hv : ∀ e ∈ unmasked rows mask, V (f e)) : V (evalBatch o f rows (some mask)) := by
  rw [evalBatch_eq h hv]
  exact h.reduce_valid (List.forall_mem_map.mpr hv)

/-- the effective mask of a batch (`_evaluate_model_step`) -/
def batchMask (b : List ε × Option (List Bool)) : List Bool :=
  b.2.getD (List.replicate b.1.length true)

/-- the real examples of a batch -/
def batchReal (b : List ε × Option (List Bool)) : List ε := unmasked b.1 (batchMask b)

theorem foldl_evalStep (h : Lawful o V) {f : ε → σ} {batches : List (List ε × Option (List Bool))}
    (hv : ∀ e ∈ batches.flatMap batchReal, V (f e)) {s : σ} (hs : V s) :
    batches.foldl (evalStep o f) s = o.merge s (o.reduce ((batches.flatMap batchReal).map f)) := by
  induction batches generalizing s with
  | nil => exact h.foldl_merge hs (List.forall_mem_nil _)
  | cons b bs ih =>
    rw [List.flatMap_cons, List.forall_mem_append] at hv
    have hb := List.forall_mem_map.mpr hv.1
    have hbs := List.forall_mem_map.mpr hv.2
    -- `evalStep o f s b` unfolds to `o.merge s (evalBatch o f b.1 (some (batchMask b)))`
    have hstep : evalStep o f s b = o.merge s (o.reduce ((batchReal b).map f)) :=
      congrArg (o.merge s) (evalBatch_eq h hv.1)
    rw [List.foldl_cons, hstep, ih hv.2 (h.merge_valid _ _ hs (h.reduce_valid hb)),
      h.merge_assoc _ _ _ hs (h.reduce_valid hb) (h.reduce_valid hbs), ← h.reduce_append hb hbs,
      List.flatMap_cons, List.map_append]

/-- `evaluate_model` computes the statistic of all real rows of all batches, as if they had been
one unpadded batch. -/
theorem evalModel_eq (h : Lawful o V) (f : ε → σ) (batches : List (List ε × Option (List Bool)))
    (hv : ∀ e ∈ batches.flatMap batchReal, V (f e)) :
    evalModel o f batches = o.reduce ((batches.flatMap batchReal).map f) :=
  (foldl_evalStep h hv h.zero_valid).trans
    (h.zero_merge _ (h.reduce_valid (List.forall_mem_map.mpr hv)))

end eval

end FedjaxVerif.Stats
