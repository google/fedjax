import FedjaxVerif.Model.FedData
import FedjaxVerif.Model.Centralised

/-!
# The swap step of `buffered_shuffle`

`buf[swap], buf[0] = buf[0], buf[swap]` is modelled twice: `Centralised.swap0` (C15) and, inside
`FedData.swapStep`, by `List.set`/`List.getD` (C08).  Both exchange the head with an inner
position, so one fact about `set`/`getD` (`getD_cons_set_perm`) shows that each keeps the items of
the buffer, and `swapStep_eq_swap0` that they are the same step.
Core Lean only.
-/

namespace FedjaxVerif

/-- putting `a` at position `j` and taking out what was there: the same items -/
theorem getD_cons_set_perm {α} (l : List α) (j : Nat) (a : α) :
    (l.getD j a :: l.set j a).Perm (a :: l) := by
  induction l generalizing j with
  | nil => exact .refl _
  | cons x xs ih =>
    cases j with
    | zero => exact List.Perm.swap a x xs
    | succ j =>
      exact (List.Perm.swap x (xs.getD j a) (xs.set j a)).trans
        (((ih j).cons x).trans (List.Perm.swap a x xs))

namespace Centralised

/-- `swap0` exchanges the head with position `s` of the tail (out of range: `getD` and `set`
change nothing) -/
theorem swap0_cons_succ {α} (a : α) (tl : List α) (s : Nat) :
    swap0 (a :: tl) (s + 1) = tl.getD s a :: tl.set s a := by
  rw [swap0, List.getD_eq_getElem?_getD]
  cases h : tl[s]? with
  | some x => rfl
  | none => simp [List.set_eq_of_length_le (List.getElem?_eq_none_iff.mp h)]

theorem swap0_perm {α} (buf : List α) (s : Nat) : (swap0 buf s).Perm buf := by
  cases buf with
  | nil => cases s <;> exact .refl _
  | cons a tl =>
    cases s with
    | zero => exact .refl _
    | succ s =>
      rw [swap0_cons_succ]
      exact getD_cons_set_perm tl s a

/-- the conditional swap `if swap < B - 1: …` keeps the items of the buffer -/
theorem swap0_ite_perm {α} (c : Prop) [Decidable c] (buf : List α) (s : Nat) :
    (if c then swap0 buf s else buf).Perm buf := by
  split
  · exact swap0_perm buf s
  · exact .refl _

theorem swap0_ite_ne_nil {α} (c : Prop) [Decidable c] {buf : List α} (h : buf ≠ []) (s : Nat) :
    (if c then swap0 buf s else buf) ≠ [] :=
  fun h0 => h (h0 ▸ (swap0_ite_perm c buf s).symm).eq_nil

end Centralised

namespace FedData

theorem swapStep_eq_swap0 {α} (B : Nat) (r i : α) (tl : List α) (s : Nat) :
    swapStep B (r :: tl) s i =
      (r, if s < B - 1 then Centralised.swap0 (i :: tl) s else i :: tl) := by
  rw [swapStep]
  split
  · cases s with
    | zero => rfl
    | succ s =>
      rw [Centralised.swap0_cons_succ]
      rfl
  · rfl

theorem swapStep_perm {α} (B : Nat) (buf : List α) (swap : Nat) (i : α) :
    ((swapStep B buf swap i).1 :: (swapStep B buf swap i).2).Perm (i :: buf) := by
  cases buf with
  | nil => exact .refl _
  | cons r rest =>
    rw [swapStep_eq_swap0]
    exact ((Centralised.swap0_ite_perm _ _ _).cons r).trans (List.Perm.swap i r rest)

end FedData
end FedjaxVerif
