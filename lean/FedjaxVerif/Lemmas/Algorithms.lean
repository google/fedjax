import FedjaxVerif.Model.Algorithms
import FedjaxVerif.Lemmas.ListAux
import Mathlib.Data.List.Nodup

/-!
# What C12 and C17 both need of `Model/Algorithms.lean`

Dicts keyed by client id (`dictGet`, of which `FedAvg.sizeOf` is one) and HypCluster's server step on an
accumulated delta.
-/

namespace FedjaxVerif.Algorithms
open FedjaxVerif.FedAvg

theorem dictGet_const {ι α κ} [DecidableEq ι] {idOf : κ → ι} {val : κ → α} {d : α} {clients : List κ}
    (h : ∀ c, val c = d) (cid : ι) : dictGet idOf val d clients cid = d := by
  unfold dictGet
  split <;> simp [h]

theorem dictGet_of_mem {ι α κ} [DecidableEq ι] {idOf : κ → ι} {val : κ → α} {d : α} {clients : List κ}
    (hnd : (clients.map idOf).Nodup) {c : κ} (hc : c ∈ clients) :
    dictGet idOf val d clients (idOf c) = val c := by
  unfold dictGet
  rw [ListAux.find?_of_nodup_map idOf (by rwa [List.map_reverse, List.nodup_reverse])
    (List.mem_reverse.mpr hc) fun _ => decide_eq_true_iff]

theorem sizeOf_map {ι β κ} [DecidableEq ι] (g : κ → Client ι β) (l : List κ) (cid : ι) :
    FedAvg.sizeOf (l.map g) cid = dictGet (fun c => (g c).id) (fun c => (g c).size) 0 l cid := by
  unfold FedAvg.sizeOf dictGet
  simp only [← List.map_reverse, List.find?_map, Function.comp_def]
  cases List.find? _ l.reverse <;> rfl

theorem sizeOf_map_congr {ι β κ : Type} [DecidableEq ι] {g g' : κ → Client ι β} {l : List κ}
    (h : ∀ c, (g c).id = (g' c).id ∧ (g c).size = (g' c).size) :
    FedAvg.sizeOf (l.map g) = FedAvg.sizeOf (l.map g') := by
  funext cid
  -- as `dictGet`s the two sides differ only in the id and the value function, equal by `h`
  rw [sizeOf_map, sizeOf_map, funext fun c => (h c).1, funext fun c => (h c).2]

theorem hypServer_hypDelta {σs} (sopt : Optimizer σs) (cl : ServerState σs) (a : P × Rat) :
    hypServer sopt cl (hypDelta a)
      = if 0 < a.2 then serverUpdate sopt cl (inverseWeight a.1 a.2) else cl := by
  unfold hypDelta
  split <;> rfl

end FedjaxVerif.Algorithms
