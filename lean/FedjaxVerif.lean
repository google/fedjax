import FedjaxVerif.Model.Proto
import FedjaxVerif.Model.Batching
import FedjaxVerif.Lemmas.Ceil
import FedjaxVerif.Lemmas.Blocks
import FedjaxVerif.Lemmas.BufferedShuffle
import FedjaxVerif.Handlers.C03
import FedjaxVerif.Props.C03
import FedjaxVerif.Handlers.C02
import FedjaxVerif.Model.ForEach
import FedjaxVerif.Props.C02
import FedjaxVerif.Handlers.C01
import FedjaxVerif.Model.FedAvg
import FedjaxVerif.Lemmas.ListAux
import FedjaxVerif.Lemmas.Vec
import FedjaxVerif.Lemmas.FedAvgVec
import FedjaxVerif.Props.C01
import FedjaxVerif.Model.Shuffle
import FedjaxVerif.Model.Centralised
import FedjaxVerif.Handlers.C04
import FedjaxVerif.Handlers.C15
import FedjaxVerif.Props.C04
import FedjaxVerif.Props.C15
import FedjaxVerif.Model.Serialize
import FedjaxVerif.Handlers.C16
import FedjaxVerif.Props.C16
import FedjaxVerif.Model.Samplers
import FedjaxVerif.Handlers.C13
import FedjaxVerif.Props.C13
import FedjaxVerif.Model.FedData
import FedjaxVerif.Handlers.C08
import FedjaxVerif.Props.C08
import FedjaxVerif.Model.Hadamard
import FedjaxVerif.Handlers.C18
import FedjaxVerif.Props.C18
import FedjaxVerif.Model.Cache
import FedjaxVerif.Model.Experiment
import FedjaxVerif.Handlers.C09
import FedjaxVerif.Handlers.C19
import FedjaxVerif.Props.C09
import FedjaxVerif.Props.C19
import FedjaxVerif.Model.TreeUtil
import FedjaxVerif.Handlers.C07
import FedjaxVerif.Props.C07
import FedjaxVerif.Model.Masked
import FedjaxVerif.Handlers.C06
import FedjaxVerif.Props.C06
import FedjaxVerif.Handlers.C10
import FedjaxVerif.Model.Purity
import FedjaxVerif.Props.C10
import FedjaxVerif.Model.Stats
import FedjaxVerif.Model.Metrics
import FedjaxVerif.Handlers.C05
import FedjaxVerif.Handlers.C14
import FedjaxVerif.Lemmas.Stats
import FedjaxVerif.Lemmas.Metrics
import FedjaxVerif.Props.C05
import FedjaxVerif.Props.C14
import FedjaxVerif.Handlers.C20
import FedjaxVerif.Model.Shakespeare
import FedjaxVerif.Model.Emnist
import FedjaxVerif.Model.Cifar
import FedjaxVerif.Model.Labels
import FedjaxVerif.Props.C20
import FedjaxVerif.Model.Quantize
import FedjaxVerif.Handlers.C11
import FedjaxVerif.Props.C11
import FedjaxVerif.Handlers.C12
import FedjaxVerif.Model.Algorithms
import FedjaxVerif.Lemmas.Algorithms
import FedjaxVerif.Props.C12
import FedjaxVerif.Handlers.C17
import FedjaxVerif.Model.Invariants
import FedjaxVerif.Props.C17
import FedjaxVerif.Model.Stackoverflow
import FedjaxVerif.Model.Loss
